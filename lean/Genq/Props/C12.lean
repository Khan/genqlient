/-
C12 — every HTTP outcome is classified correctly, keeps partial data, closes the body.
Decision logic stated outright over the model `Genq.HttpResp.makeRequest`.
-/
import Genq.Model.HttpResp
import Genq.Model.ClientSkel
import Genq.Extracted.Client
namespace Genq.HttpResp

/-- a non-200 status always yields an HTTPError carrying that status; it carries the decoded
    response when the body decodes, the raw text otherwise. -/
theorem C12_non200_is_HTTPError (s : Nat) (b : BodyFacts) (h : s ≠ 200) :
    ∃ c, (makeRequest (.resp s b)).outcome = .httpError s c ∧
      (c = .decoded b.unmarshalErrors ↔ (b.readAllFails = false ∧ b.unmarshalOk = true)) := by
  rw [makeRequest, if_pos (bne_iff_ne.2 h)]
  cases hr : b.readAllFails <;> cases hu : b.unmarshalOk <;> simp

/-- a 200 whose errors list is non-empty yields those errors *and* the data that arrived is decoded -/
theorem C12_200_errors (b : BodyFacts) (hd : b.decodeOk = true) (he : b.decodeErrors = true) :
    (makeRequest (.resp 200 b)).outcome = .gqlErrors ∧ (makeRequest (.resp 200 b)).dataDecoded = true := by
  simp [makeRequest, hd, he]

/-- a 200 without errors yields nil and fully decoded data -/
theorem C12_200_ok (b : BodyFacts) (hd : b.decodeOk = true) (he : b.decodeErrors = false) :
    (makeRequest (.resp 200 b)).outcome = .ok ∧ (makeRequest (.resp 200 b)).dataDecoded = true := by
  simp [makeRequest, hd, he]

/-- undecodable 200 bodies and transport failures yield some other error, never ok / HTTPError -/
theorem C12_other_error (r : DoResult)
    (h : r = .transportErr ∨ ∃ b, r = .resp 200 b ∧ b.decodeOk = false) :
    (makeRequest r).outcome = .transport ∨ (makeRequest r).outcome = .decodeError := by
  rcases h with h | ⟨b, h, hd⟩
  · subst h; simp [makeRequest]
  · subst h; simp [makeRequest, hd]

/-- outcomes are mutually exclusive and exhaustive w.r.t. the documented classification -/
theorem C12_exactly_one_outcome (r : DoResult) :
    match r with
    | .transportErr => (makeRequest r).outcome = .transport
    | .resp s b =>
      if s ≠ 200 then ∃ c, (makeRequest r).outcome = .httpError s c
      else if b.decodeOk = false then (makeRequest r).outcome = .decodeError
      else if b.decodeErrors = true then (makeRequest r).outcome = .gqlErrors
      else (makeRequest r).outcome = .ok := by
  cases r with
  | transportErr => rfl
  | resp s b =>
    by_cases hs : s = 200
    · subst hs
      cases hd : b.decodeOk <;> cases he : b.decodeErrors <;> simp [makeRequest, hd, he]
    · obtain ⟨c, hc, _⟩ := C12_non200_is_HTTPError s b hs
      exact (if_pos hs).mpr ⟨c, hc⟩

/-- the response body is closed exactly once iff Do returned a response — on every path,
    read faults included -/
theorem C12_body_closed_once (r : DoResult) :
    (makeRequest r).closes = (match r with | .transportErr => 0 | .resp _ _ => 1) := by
  cases r with
  | transportErr => rfl
  | resp s b => simp only [makeRequest, apply_ite Run.closes, ite_self]

/-- The full helper statement ("non-nil response struct also when no client is obtainable"). -/
def C12_helper_returns_nonnil_full : Prop :=
  ∀ g r, (helper g r).dataNonNil = true

/-- proved part: without a failing client getter the helper returns a non-nil struct, the
    error unchanged, and makes exactly one request -/
theorem C12_helper_returns_nonnil_partial (g : Option Bool) (r : DoResult) (h : g ≠ some true) :
    (helper g r).dataNonNil = true ∧ (helper g r).errUnchanged = true ∧ (helper g r).requests = 1 := by
  unfold helper
  split
  · contradiction
  · simp

/-- the full statement is false of the current template: witness = failing client getter (F-12a) -/
theorem C12_helper_nil_on_getter_failure : ¬ C12_helper_returns_nonnil_full := by
  intro h
  have := h (some true) .transportErr
  simp [helper] at this

-- non-vacuity: hypotheses are met by concrete inputs
example : (makeRequest (.resp 429 ⟨false, true, true, false, false⟩)).outcome = .httpError 429 (.decoded true) := by decide
example : (makeRequest (.resp 200 ⟨false, false, false, true, true⟩)) = ⟨.gqlErrors, 1, true⟩ := by decide
example : (makeRequest (.resp 500 ⟨true, false, false, false, false⟩)) = ⟨.httpError 500 .unreadableText, 1, false⟩ := by decide

end Genq.HttpResp

namespace Genq

/-- **C12_client_skeleton_tie** — MakeRequest as it stands in /repo: Do; on success a deferred Body.Close before
    anything is read; status gate with ReadAll and the JSON-or-text fallback; Decode into the caller's Response;
    resp.Errors returned last -/
theorem C12_client_skeleton_tie : Extracted.httpClientSkeleton = ClientSkel.httpClientSkeleton := rfl

/-- **C12_operation_template_tie** — the generated helper (operation.go.tmpl) as it stands in /repo: client getter
    early return, data_ allocated before MakeRequest and returned together with err_ -/
theorem C12_operation_template_tie : Extracted.operationTmpl = ClientSkel.operationTmpl := rfl

end Genq
