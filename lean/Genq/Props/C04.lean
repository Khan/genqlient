/-
C04 — each helper call sends one request whose variables are valid and faithful.
Proved here: which keys the variables object has (Model/Vars.lean), and on the model of the
generated marshaling (Model/CodecIn.lean) when a field contributes its key.  That the values equal
the arguments, coerce to the declared GraphQL types and that custom marshalers are applied at every
list depth is decided on the compiled helpers (recording client, gqlparser's variable coercion).
-/
import Genq.Proofs.Eval
import Genq.Model.CodecSkel
import Genq.Extracted.Codec
import Genq.Model.Vars
import Genq.Model.CodecIn
import Genq.Model.ClientSkel
import Genq.Extracted.Client
namespace Genq.Vars

theorem keys_sublist (vs : List Var) : (keys vs).Sublist (vs.map (·.name)) :=
  List.filter_sublist.map _

/-- **C04_keys_subset** — the variables object has keys only for declared variables, each at most
    once (given distinct variable names, as GraphQL validation guarantees) -/
theorem C04_keys_subset (vs : List Var) (hn : (vs.map (·.name)).Nodup) :
    (∀ k ∈ keys vs, k ∈ vs.map (·.name)) ∧ (keys vs).Nodup :=
  ⟨fun _ hk => (keys_sublist vs).subset hk, hn.sublist (keys_sublist vs)⟩

/-- **C04_omitted_iff** — a variable's key is omitted exactly when it is marked omitempty and its
    Go value is empty in the encoding/json sense; for fields with a custom marshaler (the
    documented exception) exactly when it is marked omitempty and is a nil pointer.  Nothing else
    is ever omitted. -/
theorem C04_omitted_iff (v : Var) :
    keyPresent v = false ↔
      v.omitempty = true ∧ (if v.special then v.shape = .nilPointer else isEmpty v.shape = true) := by
  unfold keyPresent
  cases v.special <;> simp

/-- without omitempty every declared variable is sent, whatever its value -/
theorem C04_no_omitempty_all_sent (vs : List Var) (h : ∀ v ∈ vs, v.omitempty = false) :
    keys vs = vs.map (·.name) := by
  unfold keys
  congr 1
  apply List.filter_eq_self.2
  intro v hv
  simp [keyPresent, h v hv]

/-- **C04_one_request** — a helper call makes exactly one request carrying the operation's name,
    its emitted document and the input struct, unless no client could be obtained (then none) -/
theorem C04_one_request (getterFails : Bool) :
    (helperCall getterFails).requests = (if getterFails then 0 else 1) ∧
    (helperCall getterFails).opNameIsOperation = true ∧ (helperCall getterFails).queryIsEmittedDocument = true := by
  cases getterFails <;> decide

-- non-vacuity
example : keys [⟨"a", true, false, .zeroScalar⟩, ⟨"b", false, false, .nilPointer⟩, ⟨"c", true, true, .zeroScalar⟩, ⟨"d", true, true, .nilPointer⟩]
    = ["b", "c"] := by eval_decide

end Genq.Vars

namespace Genq
/-- **C04_marshal_template_tie** — the marshal template (which also produces the MarshalJSON of input objects and of
    the hidden `__<Op>Input` struct: per-slice-depth loop, nil-pointer skip, omitempty copied to the premarshal
    struct), FlattenedFields and the decision which structs get generated (un)marshalers, as extracted from /repo
    on this run, are the ones the checks were written against. -/
theorem C04_marshal_template_tie :
    Extracted.marshalTmpl = CodecSkel.marshalTmpl ∧ Extracted.flattenedFieldsSkeleton = CodecSkel.flattenedFieldsSkeleton := ⟨rfl, rfl⟩
end Genq

/-! ### the values: the model of the generated marshaling of variables (Model/CodecIn.lean) -/
namespace Genq.Codec
open Genq.Types (J)

/-- **C04_field_omitted_iff_empty_model** — a variable or input-object field contributes its key to the object
    sent EXCEPT when it is tagged omitempty and its value is empty in the encoding/json sense (for a custom-marshaled
    field: judged on the premarshal struct); then it contributes nothing.  Nothing else is ever omitted. -/
theorem C04_field_omitted_iff_empty_model (tag : String) (emb : Bool) (t : Ty) (rest : Flds) (v : Val) (vs : List Val) :
    encInFields (.cons tag emb t rest) (v :: vs) =
      (if (splitTag tag).2 && (if special t then isEmptySpecial t v else isEmptyPlain t v) then []
       else [((splitTag tag).1, if special t then encInSpecial t v else encIn t v)]) ++ encInFields rest vs := by
  rw [encInFields]
  cases special t <;> simp

/-- a field NOT marked omitempty is always sent, whatever its value -/
theorem C04_unmarked_field_always_sent_model (tag : String) (emb : Bool) (t : Ty) (rest : Flds) (v : Val) (vs : List Val)
    (h : (splitTag tag).2 = false) :
    ∃ j, encInFields (.cons tag emb t rest) (v :: vs) = ((splitTag tag).1, j) :: encInFields rest vs := by
  rw [C04_field_omitted_iff_empty_model, h]
  exact ⟨_, rfl⟩

/-- nil pointers are sent as null; custom marshalers are applied to every element at every list depth; and the
    known finding F-04a is visible in the model: a nil list of custom-marshaled elements is sent as [] -/
theorem C04_encoding_cases_model (t : Ty) (vs : List Val) :
    encIn (.ptr t) .nilPtr = .null ∧
    encInSpecial (.slice (.slice t)) (.slice [.slice vs]) = .arr [.arr (vs.map (fun v => encInSpecial t v))] ∧
    encInSpecial (.slice t) .nilSlice = .arr [] :=
  ⟨rfl, rfl, rfl⟩

-- non-vacuity: `$tag: String` omitempty with "", `$n: Int!` with 0 (not omitempty), `$at: [Stamp!]` omitempty nil
example : encVars (.cons "tag,omitempty" false (.leaf .str) (.cons "n" false (.leaf .int)
      (.cons "at,omitempty" false (.slice (.leaf .custom)) .nil))) [.str "", .num "0", .null]
    = .ok (.obj [("n", .num "0")]) := rfl

end Genq.Codec

namespace Genq

/-- **C04_operation_template_tie** — the generated helper fills Request{OpName, Query, Variables} from the
    `__<Op>Input` struct exactly as the template in /repo says (regenerated on every run) -/
theorem C04_operation_template_tie : Extracted.operationTmpl = ClientSkel.operationTmpl := rfl

end Genq
