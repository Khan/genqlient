/-
C05 — operations that do not validate against the schema are always rejected.
The GraphQL validator is gqlparser (third party); its guarantee is the hypothesis
`ValidatorSound`.  What is proved is genqlient's part: every definition of every matched file
and of every selected string literal is in the document handed to the validator, so an invalid
one anywhere makes the run fail.
-/
import Genq.Proofs.Eval
import Genq.Model.Files
import Genq.Model.ConvSkel
import Genq.Extracted.Conv
namespace Genq.Files

/-- hypothesis on the third-party validator: it accepts a document only if every definition
    in it is valid (w.r.t. the schema, for the rule classes of C05) -/
def ValidatorSound {D} (validate : List D → Bool) (Valid : D → Prop) : Prop :=
  ∀ doc, validate doc = true → ∀ d ∈ doc, Valid d

/-- **C05_all_reach_validator** — no file, literal or definition is dropped: every definition
    of a matched .graphql file and of a selected literal of a matched .go file is in the merged
    document, whatever the enumeration order of the files. -/
theorem C05_all_reach_validator {D} (files : List (File D)) (f : File D) (hf : f ∈ files) :
    (f.kind = .graphql → ∀ d ∈ f.defs, d ∈ merged files) ∧
    (f.kind = .go → ∀ l ∈ f.lits, selected l.value = true → ∀ d ∈ l.defs, d ∈ merged files) := by
  constructor
  · intro hk d hd
    simp only [merged, List.mem_flatMap]
    exact ⟨f, hf, by simp [defsOfFile, hk, hd]⟩
  · intro hk l hl hs d hd
    simp only [merged, List.mem_flatMap]
    refine ⟨f, hf, ?_⟩
    simp only [defsOfFile, hk, List.mem_flatMap, List.mem_filter]
    exact ⟨l, ⟨hl, hs⟩, hd⟩

/-- **C05_reject** — with a sound validator, an invalid definition anywhere (any matched file,
    any selected literal) makes the run fail: a successful run certifies every definition. -/
theorem C05_reject {D} (validate : List D → Bool) (Valid : D → Prop) (hv : ValidatorSound validate Valid)
    (files : List (File D)) (h : accept validate files = true) :
    ∀ f ∈ files, (f.kind = .graphql → ∀ d ∈ f.defs, Valid d) ∧
      (f.kind = .go → ∀ l ∈ f.lits, selected l.value = true → ∀ d ∈ l.defs, Valid d) := by
  intro f hf
  simp only [accept, Bool.and_eq_true] at h
  have hall := hv _ h.2
  obtain ⟨h1, h2⟩ := C05_all_reach_validator files f hf
  exact ⟨fun hk d hd => hall d (h1 hk d hd), fun hk l hl hs d hd => hall d (h2 hk l hl hs d hd)⟩

/-- a file of an unknown type makes the run fail (it is never silently skipped) -/
theorem C05_unknown_file_type_rejected {D} (validate : List D → Bool) (files : List (File D)) (f : File D)
    (hf : f ∈ files) (hk : f.kind = .other) : accept validate files = false := by
  simp only [accept, Bool.and_eq_false_iff, Bool.not_eq_false']
  left
  exact List.any_eq_true.2 ⟨f, hf, by simp [hk]⟩

theorem hasPrefix_eq : ∀ p s : Str, hasPrefix p s = p.isPrefixOf s
  | [], _ => by rw [hasPrefix, List.isPrefixOf_nil_left]
  | _ :: _, [] => rfl
  | _ :: p, _ :: s => by rw [hasPrefix, List.isPrefixOf_cons_cons, hasPrefix_eq p s]

theorem trimLeft_eq : ∀ v : Str, trimLeft v = v.dropWhile isSpaceC
  | [] => rfl
  | c :: v => by rw [trimLeft, List.dropWhile_cons, trimLeft_eq v]

/-- the literal-selection predicate accepts what the documentation describes: a literal whose
    text, after white space, starts with `# @genqlient` -/
theorem C05_selected_marker (ws rest : Str) (hws : ∀ c ∈ ws, isSpaceC c = true) :
    selected (ws ++ marker ++ rest) = true := by
  rw [selected, hasPrefix_eq, trimLeft_eq, List.append_assoc, List.dropWhile_append_of_pos hws,
    List.isPrefixOf_iff_prefix]
  exact List.prefix_append marker rest

theorem hasPrefix_iff (p s : Str) : hasPrefix p s = true ↔ ∃ r, s = p ++ r := by
  rw [hasPrefix_eq, List.isPrefixOf_iff_prefix]
  exact exists_congr fun _ => eq_comm

theorem trimLeft_split (v : Str) : ∃ ws, (∀ c ∈ ws, isSpaceC c = true) ∧ v = ws ++ trimLeft v :=
  ⟨v.takeWhile isSpaceC, fun _ h => List.all_eq_true.1 List.all_takeWhile _ h,
    by rw [trimLeft_eq, List.takeWhile_append_dropWhile]⟩

/-- **C05_selected_iff** — the literal-selection predicate is EXACTLY "white space, then `# @genqlient`": a Go
    string literal is handed to the parser (and so to the validator) iff its text has that shape; no other
    literal is ever silently taken for an operation and none of that shape is skipped. -/
theorem C05_selected_iff (v : Str) :
    selected v = true ↔ ∃ ws rest, (∀ c ∈ ws, isSpaceC c = true) ∧ v = ws ++ marker ++ rest := by
  constructor
  · intro h
    obtain ⟨ws, h1, h2⟩ := trimLeft_split v
    obtain ⟨r, hr⟩ := (hasPrefix_iff marker (trimLeft v)).1 h
    exact ⟨ws, r, h1, by rw [List.append_assoc, ← hr]; exact h2⟩
  · rintro ⟨ws, rest, h1, rfl⟩
    exact C05_selected_marker ws rest h1

-- non-vacuity
example : merged [({ name := ['a'], kind := .graphql, defs := [1, 2], lits := [] } : File Nat),
    { name := ['b'], kind := .go, defs := [], lits := [⟨"\n  # @genqlient\nquery".toList, [3]⟩, ⟨"plain".toList, [9]⟩] }] = [1, 2, 3] := by eval_decide

end Genq.Files

namespace Genq

/-- **C05_parse_tie** — getAndValidateQueries / getQueries / getQueriesFromString / getQueriesFromGo, as in /repo now (regenerated on every run), equal to the copy the model was written from -/
theorem C05_parse_tie : Extracted.parseSkeleton = ConvSkel.parseSkeleton := rfl

end Genq
