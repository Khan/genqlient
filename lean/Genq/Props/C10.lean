/-
C10 — options shape Go types exactly as documented, with documented precedence.
-/
import Genq.Model.Conv
import Genq.Model.ConvSkel
import Genq.Extracted.Conv
import Genq.Model.DirApply
namespace Genq.Conv

/-- first value that is set -/
def firstSome (l : List (Option Bool)) : Option Bool := l.findSome? id
def firstNonEmpty (l : List String) : String := (l.find? (· != "")).getD ""

theorem fillBool_eq (t : Option Bool) (ds : List (Option Bool)) : fillBool t ds = firstSome (t :: ds) := by
  cases t <;> rfl

theorem fillString_eq (t : String) (ds : List String) : fillString t ds = firstNonEmpty (t :: ds) := by
  unfold fillString firstNonEmpty
  cases h : t != "" <;> simp [h, List.find?]

/-- **C10_precedence** — option by option, the value in force is the first that is set among:
    the node's own directive, the `for:` entry of the enclosing operation or fragment, the
    operation- or fragment-level directive (genqlient.yaml enters later, in convertType).
    `struct`/`flatten` cannot be set through `for:`; `typename` does not come from the
    operation-level directive. -/
theorem C10_precedence (node forField op : Dir) :
    (merge node forField op).pointer = firstSome [node.pointer, forField.pointer, op.pointer] ∧
    (merge node forField op).omitempty = firstSome [node.omitempty, forField.omitempty, op.omitempty] ∧
    (merge node forField op).struct = firstSome [node.struct, op.struct] ∧
    (merge node forField op).flatten = firstSome [node.flatten, op.flatten] ∧
    (merge node forField op).bind = firstNonEmpty [node.bind, forField.bind, op.bind] ∧
    (merge node forField op).typename = firstNonEmpty [node.typename, forField.typename] ∧
    (merge node forField op).alias = firstNonEmpty [node.alias, forField.alias, op.alias] := by
  simp only [merge, fillBool_eq, fillString_eq, and_self]

/-- **C10_no_leak** — the options in force at a node are a function of the node's own
    directive, of the `for:` entry for (its parent type, its FIELD NAME) and of the enclosing
    operation/fragment directive only: an entry for another type or field, and the node's
    response alias, never matter. -/
theorem C10_no_leak (node op : Dir) (t : ForTable) (parentType fieldName alias alias' : String) (extra : Dir)
    (otherType otherField : String) (hne : (otherType, otherField) ≠ (parentType, fieldName)) :
    merge node (forLookup t parentType fieldName alias) op = merge node (forLookup t parentType fieldName alias') op ∧
    merge node (forLookup (((otherType, otherField), extra) :: t) parentType fieldName alias) op =
      merge node (forLookup t parentType fieldName alias) op := by
  refine ⟨rfl, ?_⟩
  have : ((parentType, fieldName) == (otherType, otherField)) = false := by
    simp only [beq_eq_false_iff_ne, ne_eq]
    exact fun h => hne h.symm
  simp [forLookup, List.lookup, this]

/-- **C10_bind_replaces_whole_type** — `bind: T` (T ≠ "-") gives exactly T for the whole field
    type, lists included, whatever else is configured -/
theorem C10_bind_replaces_whole_type (cfg : Cfg) (k : Kind) (o : Dir) (t : TRef)
    (h1 : o.bind ≠ "") (h2 : o.bind ≠ "-") : convertType cfg k o t = .opaque o.bind := by
  cases t <;> simp [convertType, h1, h2]

/-- **C10_lists_are_slices** — a list type is a slice of what its element type converts to; the
    slice itself is never wrapped in a pointer or an optional ("`[String]` ↦ `[]*string`, not
    `*[]*string`") -/
theorem C10_lists_are_slices (cfg : Cfg) (k : Kind) (o : Dir) (e : TRef) (nn : Bool)
    (h : o.bind = "" ∨ o.bind = "-") :
    convertType cfg k o (.list e nn) = .slice (convertType cfg k o e) := by
  rcases h with h | h <;> simp [convertType, h]

/-- **C10_named_type_wrapper** — for a named type without binding the wrapper is the documented
    function of (struct references, pointer option, nullability, `optional`) -/
theorem C10_named_type_wrapper (cfg : Cfg) (k : Kind) (o : Dir) (n : String) (nn : Bool)
    (hb : o.bind = "" ∨ o.bind = "-") :
    convertType cfg k o (.named n nn) =
      if isStructRef cfg k then (if o.pointer = some false then .base else .ptr .base)
      else if o.pointer = some true then .ptr .base
      else if o.pointer = some false then (if !nn && cfg.optional == .generic then .generic .base else .base)
      else if nn then .base
      else match cfg.optional with
        | .value => .base
        | .pointer => .ptr .base
        | .generic => .generic .base := by
  have hb' : (o.bind != "" && o.bind != "-") = false := by
    rcases hb with h | h <;> simp [h]
  rw [convertType, hb', if_neg Bool.false_ne_true]
  cases isStructRef cfg k
  · rcases o.pointer with _ | _ | _
    -- without a `pointer` option nullability and `optional` decide
    · cases nn <;> cases cfg.optional <;> rfl
    · rfl
    · rfl
  · rcases o.pointer with _ | _ | _ <;> rfl

/-- `pointer: false` never yields a pointer -/
theorem C10_pointer_false_never_pointer (cfg : Cfg) (k : Kind) (o : Dir) (n : String) (nn : Bool)
    (hp : o.pointer = some false) : convertType cfg k o (.named n nn) ≠ .ptr .base := by
  by_cases hb : o.bind = "" ∨ o.bind = "-"
  · rw [C10_named_type_wrapper cfg k o n nn hb, hp]
    cases isStructRef cfg k <;> cases (!nn && cfg.optional == .generic) <;> exact GT.noConfusion
  · rw [not_or] at hb
    rw [C10_bind_replaces_whole_type cfg k o _ hb.1 hb.2]
    exact GT.noConfusion

/-- **C10_struct_references_default** — with use_struct_references, object and input-object
    typed fields are pointers with omitempty unless the options say otherwise -/
theorem C10_struct_references_default (cfg : Cfg) (k : Kind) (o : Dir) (n : String) (nn : Bool)
    (hs : isStructRef cfg k = true) (hb : o.bind = "") (hp : o.pointer = none) (ho : o.omitempty = none) :
    convertType cfg k o (.named n nn) = .ptr .base ∧ omitemptyAfter cfg k o (.named n nn) = true := by
  refine ⟨?_, ?_⟩
  · rw [C10_named_type_wrapper cfg k o n nn (.inl hb), if_pos hs, hp]; rfl
  · simp [omitemptyAfter, hs, hb, ho]

-- non-vacuity / documented examples
example : convertType ⟨.pointer, false⟩ .scalar {} (.list (.named "String" false) false) = .slice (.ptr .base) := by decide
example : convertType ⟨.generic, false⟩ .scalar {} (.named "String" false) = .generic .base := by decide
example : (merge { pointer := some false } { pointer := some true } { pointer := some true, omitempty := some true }).pointer = some false := by decide

end Genq.Conv

namespace Genq

/-- **C10_convertType_tie** — convertType: bind, list, named type, struct-reference / pointer / generic wrappers, as in /repo now (regenerated on every run), equal to the copy the model was written from -/
theorem C10_convertType_tie : Extracted.convertTypeSkeleton = ConvSkel.convertTypeSkeleton := rfl

/-- **C10_directive_merge_tie** — mergeOperationDirective: node > for > operation, option by option, as in /repo now (regenerated on every run), equal to the copy the model was written from -/
theorem C10_directive_merge_tie : Extracted.directiveMergeSkeleton = ConvSkel.directiveMergeSkeleton := rfl

end Genq

/-! ### which option combinations are accepted at all (Model/DirApply.lean; compared with the generator's
    accept/reject decision on every case of this check — exhaustively in the thorough tier) -/
namespace Genq.DirApply
open Genq.Conv (Dir Kind)

/-- **C10_omitempty_only_on_variables** — `omitempty` (true or false) written on a selected field is refused, whatever
    else the directive says; on a variable it is refused exactly when the variable's type is non-null -/
theorem C10_omitempty_only_on_variables (sr op_ : Bool) (node forField op : Dir) (h : validateOp op forField = .ok)
    (ho : node.omitempty.isSome = true) :
    (∀ k b hf os, verdict sr op_ (.field k b hf os) node forField op = .omitemptyOnField) ∧
    (∀ k b fs, verdict sr op_ (.var k true b fs) node forField op = .omitemptyNonNull) := by
  constructor
  · intro k b hf os
    simp [verdict, h, validateNode, ho]
  · intro k b fs
    simp [verdict, h, validateNode, ho]

/-- **C10_bind_never_on_operations** — `bind` on a whole operation is refused (unless its `for:` entry is refused first) -/
theorem C10_bind_never_on_operations (sr op_ : Bool) (t : Target) (node forField op : Dir)
    (hf : forField.struct.isSome = false) (hf2 : forField.flatten.isSome = false)
    (hf3 : (forField.typename != "" && bindReal forField.bind) = false) (hb : op.bind ≠ "") :
    verdict sr op_ t node forField op = .opBind := by
  have : validateOp op forField = .opBind := by
    rw [validateOp, hf, hf2, hf3, bne_iff_ne.2 hb]; rfl
  rw [verdict, this]; rfl

/-- **C10_pointer_always_applicable** — directives that set nothing but `pointer` (on the node, in the `for:` entry,
    on the operation) are accepted on every selected field and on every variable of scalar or enum type -/
theorem C10_pointer_always_applicable (sr op_ : Bool) (p1 p2 p3 : Option Bool) :
    (∀ k b hf os, accepts sr op_ (.field k b hf os) { pointer := p1 } { pointer := p2 } { pointer := p3 } = true) ∧
    (∀ nn b fs, accepts sr op_ (.var .scalar nn b fs) { pointer := p1 } { pointer := p2 } { pointer := p3 } = true) := by
  constructor
  · intro k b hf os
    simp [accepts, verdict, validateOp, validateNode, Conv.merge, Conv.fillString, bindReal]
  · intro nn b fs
    simp [accepts, verdict, validateOp, validateNode, Conv.merge, Conv.fillString, bindReal]

-- non-vacuity / documented examples
example : verdict false false (.field .scalar false false false) { omitempty := some true } {} {} = .omitemptyOnField := by decide
example : verdict false false (.var .input false false [⟨false, false⟩, ⟨true, false⟩]) {} {} { pointer := some true }
    = .inputPointerNeedsOmitempty := by decide
example : accepts true false (.var .input false false [⟨false, false⟩, ⟨true, false⟩]) {} {} { pointer := some true } = true := by decide

end Genq.DirApply
