/-
C16 — enum constants are a bijection with the schema's enum values.
-/
import Genq.Proofs.Eval
import Genq.Model.Names
import Genq.Model.ConvSkel
import Genq.Extracted.Conv
namespace Genq.Names

theorem find_none_iff_not_mem (seen : List EnumConst) (n : Name) :
    seen.find? (fun c => c.goName == n) = none ↔ n ∉ seen.map (·.goName) := by
  simp only [List.find?_eq_none, beq_iff_eq, List.mem_map, not_exists, not_and]

/-- the per-enum loop without a table of taken names is the generator-wide loop with an empty table -/
theorem convertEnumAuxG_nil (nameOf : Name → Name) (k : Nat) (vs : List Name) (seen : List EnumConst) :
    convertEnumAuxG nameOf [] k vs seen =
      match convertEnumAux nameOf vs seen with
      | .ok cs => .ok cs
      | .conflict a b n => .error (.conflict k a b n) := by
  induction vs generalizing seen with
  | nil => rfl
  | cons v vs ih =>
    rw [convertEnumAuxG, convertEnumAux]
    split
    · rfl
    · exact ih _

/-- the loop succeeds exactly when the Go names — in the table, emitted so far and to come — are pairwise
    different; it then emits one constant per value, in order -/
theorem convertEnumAuxG_ok_iff (nameOf : Name → Name) (taken : List Name) (k : Nat) (vs : List Name) (seen cs : List EnumConst)
    (hs : (taken ++ seen.map (·.goName)).Nodup) :
    convertEnumAuxG nameOf taken k vs seen = .ok cs ↔
      cs = seen.reverse ++ vs.map (fun v => ⟨nameOf v, v⟩) ∧
      (taken ++ (seen.map (·.goName) ++ vs.map nameOf)).Nodup := by
  induction vs generalizing seen with
  | nil => simp [convertEnumAuxG, eq_comm, hs]
  | cons v vs ih =>
    -- the name of `v` moves from the front of the values to the front of `seen`
    rw [convertEnumAuxG, List.map_cons, List.map_cons, (List.perm_middle.append_left taken).nodup_iff]
    -- the name is among this enum's constants; it is in the table; it is new
    split
    · next c hc =>
      have : nameOf v ∈ seen.map (·.goName) :=
        List.mem_map.2 ⟨c, List.mem_of_find?_eq_some hc, by simpa using List.find?_some hc⟩
      exact ⟨nofun, fun h => absurd (List.mem_append_left _ this) (List.nodup_cons.1 (List.nodup_append.1 h.2).2.1).1⟩
    · next hf =>
      have hnm := (find_none_iff_not_mem seen (nameOf v)).1 hf
      split
      · next ht =>
        exact ⟨nofun, fun h =>
          absurd rfl ((List.nodup_append.1 h.2).2.2 _ (List.contains_iff_mem.1 ht) _ List.mem_cons_self)⟩
      · next ht =>
        have hnt : nameOf v ∉ taken := fun h => ht (List.contains_iff_mem.2 h)
        rw [ih (⟨nameOf v, v⟩ :: seen)
            (List.perm_middle.nodup_iff.2 (List.nodup_cons.2 ⟨fun h => (List.mem_append.1 h).elim hnt hnm, hs⟩)),
          List.reverse_cons, List.append_assoc]
        exact Iff.rfl

/-- an error of the loop names a value of the list and its Go name -/
theorem convertEnumAuxG_error {nameOf : Name → Name} {taken : List Name} {k : Nat} {vs : List Name} {seen : List EnumConst}
    {e : EnumsRes} (h : convertEnumAuxG nameOf taken k vs seen = .error e) :
    ∃ v ∈ vs, (∃ b, e = .conflict k v b (nameOf v)) ∨ e = .crossConflict k v (nameOf v) := by
  induction vs generalizing seen with
  | nil => cases h
  | cons v vs ih =>
    rw [convertEnumAuxG] at h
    split at h
    · cases h; exact ⟨v, List.mem_cons_self, .inl ⟨_, rfl⟩⟩
    · split at h
      · cases h; exact ⟨v, List.mem_cons_self, .inr rfl⟩
      · obtain ⟨w, hw, he⟩ := ih h
        exact ⟨w, List.mem_cons_of_mem _ hw, he⟩

theorem convertEnumAux_conflict {nameOf : Name → Name} {vs : List Name} {seen : List EnumConst} {a b n : Name}
    (h : convertEnumAux nameOf vs seen = .conflict a b n) : a ∈ vs ∧ n = nameOf a := by
  have hg := convertEnumAuxG_nil nameOf 0 vs seen
  rw [h] at hg
  obtain ⟨v, hv, ⟨b', he⟩ | he⟩ := convertEnumAuxG_error hg <;> cases he
  exact ⟨hv, rfl⟩

theorem convertEnum_ok_iff (cfg : CasingCfg) (t g : Name) (values : List Name) (cs : List EnumConst) :
    convertEnum cfg t g values = .ok cs ↔
      cs = values.map (fun v => ⟨enumValueName (cfg.forEnum g) t v, v⟩) ∧
      (values.map (enumValueName (cfg.forEnum g) t)).Nodup := by
  have h := convertEnumAuxG_ok_iff (enumValueName (cfg.forEnum g) t) [] 0 values [] cs .nil
  rw [convertEnumAuxG_nil] at h
  unfold convertEnum
  -- `h` speaks of the same loop's result, wrapped in `Except`; its right side is the goal's up to `[] ++ _`
  cases hr : convertEnumAux (enumValueName (cfg.forEnum g) t) values [] with
  | ok cs' => rw [hr] at h; exact ⟨fun e => h.1 (by cases e; rfl), fun e => by cases h.2 e; rfl⟩
  | conflict a b n => rw [hr] at h; exact ⟨nofun, fun e => nomatch h.2 e⟩

theorem enumValueName_raw_injective (t : Name) : Function.Injective (enumValueName .raw t) := by
  intro a b h
  simp only [enumValueName] at h
  simpa using List.append_cancel_left h

/-- the loop over enums: what it adds to `acc` has the schema's values, and the names in `taken` and those of the
    added constants are pairwise different -/
theorem convertEnumsAux_ok (cfg : CasingCfg) (ds : List EnumDecl) (k : Nat) (taken : List Name) (acc res : List (List EnumConst))
    (h : convertEnumsAux cfg ds k taken acc = .ok res) (hn : taken.Nodup) :
    ∃ rest, res = acc.reverse ++ rest ∧ (taken ++ rest.flatMap (fun cs => cs.map (·.goName))).Nodup ∧
      rest.map (fun cs => cs.map (·.gqlName)) = ds.map (·.values) := by
  induction ds generalizing k taken acc with
  | nil =>
    cases h
    exact ⟨[], (List.append_nil _).symm, (List.append_nil taken).symm ▸ hn, rfl⟩
  | cons d ds ih =>
    rw [convertEnumsAux] at h
    split at h
    · next e he => obtain ⟨v, _, ⟨b, rfl⟩ | rfl⟩ := convertEnumAuxG_error he <;> cases h
    · next cs hcs =>
      obtain ⟨h1, h2⟩ := (convertEnumAuxG_ok_iff _ _ _ _ [] _ ((List.append_nil taken).symm ▸ hn)).1 hcs
      rw [List.reverse_nil, List.nil_append] at h1
      have hnames : cs.map (·.goName) = d.values.map (enumValueName (cfg.forEnum d.gqlTypeName) d.goTypeName) := by
        rw [h1, List.map_map]; rfl
      have hgql : cs.map (·.gqlName) = d.values := by
        rw [h1, List.map_map]; exact List.map_id _
      have hnew : (taken ++ cs.map (·.goName)).Nodup := hnames ▸ h2
      obtain ⟨rest, hres, hnd, hrest⟩ := ih (k + 1) _ (cs :: acc) h hnew
      exact ⟨cs :: rest, by rw [hres, List.reverse_cons, List.append_assoc]; rfl,
        by rw [List.flatMap_cons, ← List.append_assoc]; exact hnd,
        by rw [List.map_cons, List.map_cons, hgql, hrest]⟩

/-- **C16_bijection** — on success there is exactly one constant per schema value, in schema
    order, whose string is the GraphQL value name, and the Go identifiers are pairwise distinct
    (so `All<Enum>`, which lists the same constants, lists each once). -/
theorem C16_bijection (cfg : CasingCfg) (t g : Name) (values : List Name) (cs : List EnumConst)
    (h : convertEnum cfg t g values = .ok cs) :
    cs.map (·.gqlName) = values ∧
    cs.map (·.goName) = values.map (enumValueName (cfg.forEnum g) t) ∧
    (cs.map (·.goName)).Nodup := by
  obtain ⟨rfl, h3⟩ := (convertEnum_ok_iff ..).1 h
  simp only [List.map_map, Function.comp_def, List.map_id']
  exact ⟨trivial, trivial, h3⟩

/-- **C16_conflict_iff_error** — generation of the enum fails exactly when two values would
    receive the same Go identifier: no duplicate is emitted and no value is dropped. -/
theorem C16_conflict_iff_error (cfg : CasingCfg) (t g : Name) (values : List Name) :
    (∃ a b n, convertEnum cfg t g values = .conflict a b n) ↔
      ¬ (values.map (enumValueName (cfg.forEnum g) t)).Nodup := by
  constructor
  · rintro ⟨a, b, n, h⟩ hn
    rw [(convertEnum_ok_iff ..).2 ⟨rfl, hn⟩] at h
    cases h
  · intro hn
    cases hr : convertEnum cfg t g values with
    | ok cs => exact absurd ((convertEnum_ok_iff ..).1 hr).2 hn
    | conflict a b n => exact ⟨a, b, n, rfl⟩

/-- **C16_raw_injective** — under `raw` casing distinct schema values never conflict. -/
theorem C16_raw_injective (cfg : CasingCfg) (t g : Name) (values : List Name)
    (hraw : cfg.forEnum g = .raw) (hd : values.Nodup) :
    ∃ cs, convertEnum cfg t g values = .ok cs :=
  ⟨_, (convertEnum_ok_iff ..).2 ⟨rfl, hraw ▸ hd.map _ fun _ _ hne e => hne (enumValueName_raw_injective t e)⟩⟩

/-- The conflict that is reported names two distinct positions of the schema's value list with
    the same identifier (the error is not spurious). -/
theorem C16_conflict_is_real (cfg : CasingCfg) (t g : Name) (values : List Name) (a b n : Name)
    (h : convertEnum cfg t g values = .conflict a b n) :
    a ∈ values ∧ n = enumValueName (cfg.forEnum g) t a :=
  convertEnumAux_conflict h

/-- **C16_global_unique** — over a whole generation (the enums in the order they are converted,
    with the generator-wide table of constant names): when generation succeeds, every enum has
    exactly its schema values in order, and ALL constants of ALL enums have pairwise distinct Go
    identifiers — no duplicate is ever emitted, also not across enums (the repaired F-16:
    `enum A {B_C}` and `enum AB {C}` both yielding `ABC`). -/
theorem C16_global_unique (cfg : CasingCfg) (ds : List EnumDecl) (res : List (List EnumConst))
    (h : convertEnums cfg ds = .ok res) :
    (res.flatMap (fun cs => cs.map (·.goName))).Nodup ∧
    res.map (fun cs => cs.map (·.gqlName)) = ds.map (·.values) := by
  obtain ⟨rest, rfl, h2, h3⟩ := convertEnumsAux_ok cfg ds 0 [] [] res h List.nodup_nil
  exact ⟨h2, h3⟩

/-- the cross-enum clash is reported (as an error naming the value), not emitted -/
theorem C16_cross_enum_collision_reported :
    convertEnums ⟨none, none, []⟩ [⟨['A'], ['A'], [['B', '_', 'C']]⟩, ⟨['A', 'B'], ['A', 'B'], [['C']]⟩]
      = .crossConflict 1 ['C'] ['A', 'B', 'C'] := by eval_decide

/-- The per-enum function alone does not see other enums: its unrestricted uniqueness claim… -/
def C16_global_unique_full : Prop :=
  ∀ (cfg : CasingCfg) (e1 e2 : Name) (v1 v2 : List Name) (c1 c2 : List EnumConst),
    e1 ≠ e2 →
    convertEnum cfg (enumGoTypeName cfg e1) e1 v1 = .ok c1 →
    convertEnum cfg (enumGoTypeName cfg e2) e2 v2 = .ok c2 →
    ∀ x ∈ c1, ∀ y ∈ c2, x.goName ≠ y.goName

/-- …is false: `enum A {B_C}` and `enum AB {C}` both yield `ABC` (F-16 as it was on the pinned
    commit; the generator-wide table above is what repairs it). -/
theorem C16_cross_enum_collision : ¬ C16_global_unique_full := by
  intro h
  have := h ⟨none, none, []⟩ ['A'] ['A', 'B'] [['B', '_', 'C']] [['C']]
    [⟨['A', 'B', 'C'], ['B', '_', 'C']⟩] [⟨['A', 'B', 'C'], ['C']⟩]
    (by decide) (by eval_decide) (by eval_decide) _ (List.mem_singleton.2 rfl) _ (List.mem_singleton.2 rfl)
  exact this rfl

-- non-vacuity
example : convertEnum ⟨none, none, []⟩ "Role".toList "Role".toList ["ADMIN".toList, "super_user".toList] =
    .ok [⟨"RoleAdmin".toList, "ADMIN".toList⟩, ⟨"RoleSuperUser".toList, "super_user".toList⟩] := by eval_decide
example : convertEnum ⟨none, none, []⟩ "R".toList "R".toList ["a_b".toList, "A_B".toList] =
    .conflict "A_B".toList "a_b".toList "RAB".toList := by eval_decide

end Genq.Names

namespace Genq

/-- **C16_enum_naming_tie** — Casing.enumValueName (with the naming functions it shares a file with), as in /repo now (regenerated on every run), equal to the copy the model was written from -/
theorem C16_enum_naming_tie : Extracted.namingSkeleton = ConvSkel.namingSkeleton := rfl

/-- **C16_casing_tie** — Casing.validate / Casing.forEnum, as in /repo now (regenerated on every run), equal to the copy the model was written from -/
theorem C16_casing_tie : Extracted.casingSkeleton = ConvSkel.casingSkeleton := rfl

end Genq
