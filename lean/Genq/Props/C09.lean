/-
C09 — distinct selections never share a Go type; each operation's types are stable.
-/
import Genq.Proofs.Eval
import Genq.Extracted.Inventory
import Genq.Proofs.TypeNames
import Genq.Proofs.TypeMap
import Genq.Model.ConvSkel
import Genq.Extracted.Conv
namespace Genq.TypeMap

/-- **C09_match_iff_same_selection** — selectionsMatch accepts exactly identical selections (same
    fields, aliases, order and fragment structure at every depth): never a prefix, a permutation
    or a selection differing only deep inside an inline fragment -/
theorem C09_match_iff_same_selection (a b : List Sel) : selsMatch a b = true ↔ a = b :=
  selsMatch_iff a b

/-- **C09_reuse_only_same_need** — a lookup reuses an existing Go type only when that type was
    declared for the same GraphQL type and the same selection; any other existing entry under the
    requested name is reported as a conflict -/
theorem C09_reuse_only_same_need (m : TMap) (n : String) (need : Need) :
    (getOut m n need = .reuse ↔ lookup n m = some need) ∧
    (getOut m n need = .conflict ↔ ∃ e, lookup n m = some e ∧ e ≠ need) :=
  ⟨getOut_reuse_iff m n need, getOut_conflict_iff m n need⟩

/-- **C09_resolved_requests_hold** — in a generation that succeeds (no conflict) and whose
    unchecked fragment writes hit free names, every place that resolved to a Go type name finds,
    in the final map, exactly the declaration for its own GraphQL type and selection -/
theorem C09_resolved_requests_hold : ∀ (ops : List Req) (m m' : TMap),
    WritesFresh m ops → run m ops = some m' →
    ∀ p ∈ resolvedReqs m ops, lookup p.1 m' = some p.2 := by
  intro ops m m' hw hr p hp
  induction ops generalizing m with
  | nil => cases hp
  | cons r rs ih =>
    rw [resolvedReqs_cons, List.mem_append] at hp
    rcases hp with hp | hp
    · split at hp
      · next hro =>
        rw [List.mem_singleton.1 hp]
        exact run_keeps hw.2 (run_cons hr) (step_resolved_lookup m r hw.1 hro)
      · cases hp
    · exact ih _ hw.2 (run_cons hr) hp

/-- **C09_shared_name_same_need** — two places that were given the same Go type name need the
    same declaration: same GraphQL type, same selection -/
theorem C09_shared_name_same_need (ops : List Req) (m' : TMap)
    (hw : WritesFresh [] ops) (hr : run [] ops = some m')
    (n : String) (d1 d2 : Need)
    (h1 : (n, d1) ∈ resolvedReqs [] ops) (h2 : (n, d2) ∈ resolvedReqs [] ops) : d1 = d2 := by
  have a : lookup n m' = some d1 := C09_resolved_requests_hold ops [] m' hw hr _ h1
  have b : lookup n m' = some d2 := C09_resolved_requests_hold ops [] m' hw hr _ h2
  exact Option.some.inj (a.symm.trans b)

/-- **C09_alone_vs_together** — the declaration behind every name an operation uses is the same
    whether its requests run alone or after any other operations' requests -/
theorem C09_alone_vs_together (others mine : List Req) (mAlone mAll mMid : TMap)
    (hwA : WritesFresh [] mine) (hrA : run [] mine = some mAlone)
    (_hrO : run [] others = some mMid)
    (hwT : WritesFresh mMid mine) (hrT : run mMid mine = some mAll)
    (p : String × Need) (hp : p ∈ resolvedReqs [] mine) (hp' : p ∈ resolvedReqs mMid mine) :
    lookup p.1 mAll = lookup p.1 mAlone := by
  rw [C09_resolved_requests_hold mine [] mAlone hwA hrA p hp,
      C09_resolved_requests_hold mine mMid mAll hwT hrT p hp']

/-- checked accesses only: getType / addType -/
def Req.checked : Req → Bool
  | .get _ _ | .add _ _ => true
  | _ => false

theorem fresh_of_checked {r : Req} (m : TMap) (h : r.checked = true) : r.fresh m := by
  cases r with
  | get | add => trivial
  | write | peek => cases h

theorem writesFresh_of_checked (ops : List Req) (m : TMap) (h : ∀ r ∈ ops, r.checked = true) : WritesFresh m ops := by
  induction ops generalizing m with
  | nil => trivial
  | cons r rs ih =>
    exact ⟨fresh_of_checked m (h r (List.mem_cons_self ..)), ih _ fun x hx => h x (List.mem_cons_of_mem _ hx)⟩

/-- **C09_tie_typemap_accesses** (regenerated from /repo on every run) — in package generate the
    type map is assigned only in addType and, during conversion, read only in getType (WriteTypes
    reads it to print the result): every access the conversion makes is a checked one -/
theorem C09_tie_typemap_accesses :
    Extracted.typeMapAccesses =
      [("WriteTypes", "range"), ("WriteTypes", "read"), ("addType", "write"), ("getType", "read")] := rfl

/-- **C09_shared_name_same_need_checked** — for the code as it stands (all accesses checked, see
    C09_tie_typemap_accesses) the statement holds without any side condition -/
theorem C09_shared_name_same_need_checked (ops : List Req) (m' : TMap)
    (hc : ∀ r ∈ ops, r.checked = true) (hr : run [] ops = some m')
    (n : String) (d1 d2 : Need)
    (h1 : (n, d1) ∈ resolvedReqs [] ops) (h2 : (n, d2) ∈ resolvedReqs [] ops) : d1 = d2 :=
  C09_shared_name_same_need ops m' (writesFresh_of_checked ops [] hc) hr n d1 d2 h1 h2

/-- the full statement — without the side condition on unchecked accesses — is FALSE of the code as
    it stood: a named fragment's type was written into the map without any check and looked up by
    bare name without any check, so a fragment named like an already generated type silently
    shares that name (finding F-09) -/
def C09_shared_name_same_need_full : Prop :=
  ∀ (ops : List Req) (m' : TMap), run [] ops = some m' →
    ∀ n d1 d2, (n, d1) ∈ resolvedReqs [] ops → (n, d2) ∈ resolvedReqs [] ops → d1 = d2

theorem C09_full_refuted : ¬ C09_shared_name_same_need_full := by
  intro h
  -- both requests resolve, so they are the two entries of `resolvedReqs`
  have := h [.add "QUser" ⟨"User", [.field "id" "id" []]⟩, .write "QUser" ⟨"Query", [.field "me" "me" []]⟩]
    _ rfl "QUser" ⟨"User", [.field "id" "id" []]⟩ ⟨"Query", [.field "me" "me" []]⟩
    (.head _) (.tail _ (.head _))
  simp at this

theorem C09_full_refuted_by_peek : ¬ C09_shared_name_same_need_full := by
  intro h
  have := h [.add "QUser" ⟨"User", [.field "id" "id" [], .field "name" "name" []]⟩, .peek "QUser" ⟨"User", [.field "id" "id" []]⟩]
    _ rfl "QUser" ⟨"User", [.field "id" "id" [], .field "name" "name" []]⟩ ⟨"User", [.field "id" "id" []]⟩
    (.head _) (.tail _ (.head _))
  simp at this

-- non-vacuity: a run with reuse, a conflict-free insert and a fresh write meets the hypotheses
example : WritesFresh [] [.add "A" ⟨"T", []⟩, .get "A" ⟨"T", []⟩, .write "F" ⟨"T", []⟩] ∧
    (run [] [.add "A" ⟨"T", []⟩, .get "A" ⟨"T", []⟩, .write "F" ⟨"T", []⟩]).isSome = true := by
  exact ⟨⟨trivial, trivial, .inl rfl, trivial⟩, rfl⟩

end Genq.TypeMap

/-! ### the names themselves (generate/names.go, Model/TypeNames.lean; tied by the driver op `names.typeName`,
    which the harness compares with the Go type of every composite field of generated programs) -/
namespace Genq.Names

/-- **C09_names_start_with_operation** — every type generated under an operation or fragment carries that
    operation's name in front, whatever path of fields and types leads to it -/
theorem C09_names_start_with_operation (root : Name) (steps : List (Name × Name)) (tn : Name) (algo : Casing) :
    root <+: makeTypeName (walk root steps algo) tn algo ∧ root <+: makeLongTypeName (walk root steps algo) tn algo :=
  ⟨makeTypeName_starts_with_root root steps tn algo, makeLongTypeName_starts_with_root root steps tn algo⟩

/-- **C09_unrelated_operations_never_share_names** — two operations (or fragments) neither of whose names is a
    prefix of the other's cannot collide on any generated name, at any depth, under any casing -/
theorem C09_unrelated_operations_never_share_names (r1 r2 : Name) (s1 s2 : List (Name × Name)) (t1 t2 : Name)
    (a1 a2 : Casing) (h12 : ¬ r1 <+: r2) (h21 : ¬ r2 <+: r1) :
    makeTypeName (walk r1 s1 a1) t1 a1 ≠ makeTypeName (walk r2 s2 a2) t2 a2 := by
  intro h
  -- both operation names start the one generated name, so one of them starts the other
  have p1 := makeTypeName_starts_with_root r1 s1 t1 a1
  rw [h] at p1
  exact (List.prefix_or_prefix_of_prefix p1 (makeTypeName_starts_with_root r2 s2 t2 a2)).elim h12 h21

/-- **C09_name_ends_with_type** — below the operation's own struct a generated name ends with the cased GraphQL
    type name (shortening only ever drops a repetition of it) -/
theorem C09_name_ends_with_type (p : Prefix) (tn : Name) (algo : Casing) (hp : 1 < p.length) :
    applyCasing tn algo true <:+ makeTypeName p tn algo ∧
    (makeTypeName p tn algo = makeLongTypeName p tn algo ∨
     makeTypeName p tn algo ++ applyCasing tn algo true = makeLongTypeName p tn algo) :=
  ⟨makeTypeName_ends_with_type p tn algo hp, makeTypeName_short_or_long p tn algo⟩

/-- **C09_naming_is_not_injective** — the naming scheme alone does NOT keep different places apart (the TODO in
    names.go): `query Get { viewer {…} }` with `viewer: CurrentUser` and `query GetViewer { currentUser {…} }`
    with `currentUser: User` both ask for `GetViewerCurrentUser`.  So the property rests on the type map's check
    (C09_reuse_only_same_need …): such a clash must end in a reported conflict. -/
theorem C09_naming_is_not_injective :
    makeTypeName (walk "Get".toList [("Query".toList, "viewer".toList)] .default) "CurrentUser".toList .default =
    makeTypeName (walk "GetViewer".toList [("Query".toList, "currentUser".toList)] .default) "User".toList .default ∧
    "CurrentUser".toList ≠ "User".toList := by eval_decide

-- non-vacuity of C09_unrelated_operations_never_share_names / C09_name_ends_with_type
example : ¬ "GetA".toList <+: "GetB".toList ∧ ¬ "GetB".toList <+: "GetA".toList ∧
    1 < (walk "GetA".toList [("Query".toList, "me".toList)] .default).length := by eval_decide

end Genq.Names

namespace Genq

/-- **C09_naming_tie** — names.go typeNameParts / nextPrefix / makeTypeName / makeLongTypeName as Model/TypeNames.lean transcribes them, as in /repo now (regenerated on every run), equal to the copy the model was written from -/
theorem C09_naming_tie : Extracted.namingSkeleton = ConvSkel.namingSkeleton := rfl

/-- **C09_typemap_tie** — getType / addType: look up, compare GraphQL type and selection, insert, as in /repo now (regenerated on every run), equal to the copy the model was written from -/
theorem C09_typemap_tie : Extracted.typeMapSkeleton = ConvSkel.typeMapSkeleton := rfl

/-- **C09_selectionsMatch_tie** — selectionsMatch, as in /repo now (regenerated on every run), equal to the copy the model was written from -/
theorem C09_selectionsMatch_tie : Extracted.selectionsMatchSkeleton = ConvSkel.selectionsMatchSkeleton := rfl

end Genq
