/-
C19 — decoding untrusted response bytes fails cleanly, never panics or mis-types.
Proved here: the dispatch of the interface unmarshal helper on arbitrary JSON values, on the
helper alone (Model/Types.lean) and inside the model of the whole decoder (Model/Codec.lean).  That
Unmarshal as a whole neither panics nor loops on arbitrary bytes is decided on the compiled
code (mutated responses and raw byte mutations, with recover and a watchdog).
-/
import Genq.Proofs.Eval
import Genq.Model.Types
import Genq.Proofs.CodecBasic
import Genq.Model.CodecSkel
import Genq.Extracted.Codec
import Genq.Model.ConvSkel
import Genq.Extracted.Conv
namespace Genq.Types

/-- **C19_bad_typename_is_error** — for every JSON value other than null and every list of
    implementations: unless the value is an object whose __typename decodes to the name of
    one of the implementations, the helper returns an error — never a value of some type. -/
theorem C19_bad_typename_is_error (impls : List (Name × Name)) (j : J) (tn g : Name)
    (h : decodeIface impls j = .impl tn g) :
    ∃ kvs, j = .obj kvs ∧ typenameOf kvs = some tn ∧ tn ≠ "" ∧ impls.lookup tn = some g := by
  revert h
  fun_cases decodeIface impls j
  -- the one outcome that is an implementation
  case case4 kvs tn' ht hne g' hl =>
    intro h
    cases h
    exact ⟨kvs, rfl, ht, mt beq_iff_eq.2 hne, hl⟩
  all_goals exact fun h => nomatch h

/-- **C19_dispatch_respects_typename** — a successful dispatch yields the implementation
    registered for exactly the __typename present in the input -/
theorem C19_dispatch_respects_typename (impls : List (Name × Name)) (kvs : List (String × J)) (tn g : Name)
    (h : decodeIface impls (.obj kvs) = .impl tn g) : typenameOf kvs = some tn ∧ (tn, g) ∈ impls := by
  obtain ⟨_, he, h1, _, h3⟩ := C19_bad_typename_is_error impls _ tn g h
  cases he
  obtain ⟨l₁, l₂, rfl, _⟩ := List.lookup_eq_some_iff.1 h3
  exact ⟨h1, List.mem_append_right _ List.mem_cons_self⟩

/-- missing, empty, null or non-string __typename, and names outside the implementation list,
    are errors (the cases the property names, as evaluations) -/
theorem C19_error_cases :
    decodeIface [("User", "QUser")] (.obj [("id", .str "1")]) = .errMissingTypename ∧
    decodeIface [("User", "QUser")] (.obj [("__typename", .str "")]) = .errMissingTypename ∧
    decodeIface [("User", "QUser")] (.obj [("__typename", .null)]) = .errMissingTypename ∧
    decodeIface [("User", "QUser")] (.obj [("__typename", .num "3")]) = .errNotObject ∧
    decodeIface [("User", "QUser")] (.obj [("__typename", .str "Robot")]) = .errUnexpectedType "Robot" ∧
    decodeIface [("User", "QUser")] (.arr []) = .errNotObject ∧
    decodeIface [("User", "QUser")] (.str "User") = .errNotObject ∧
    decodeIface [("User", "QUser")] .null = .nil := by eval_decide

-- non-vacuity
example : decodeIface [("Post", "QPost"), ("User", "QUser")] (.obj [("__typename", .str "User"), ("id", .str "1")]) = .impl "User" "QUser" := by eval_decide

end Genq.Types

/-! ### the same on the model of the whole generated decoder (Model/Codec.lean) -/
namespace Genq.Codec
open Genq.Types (J)

/-- **C19_codec_dispatch_sound** — whatever JSON value the generated decoder is given at an abstract position
    (any depth of the response type), it yields either nil (for null), an error, or the implementation
    registered for exactly the `__typename` string the input object carries — decoded by that implementation's
    own decoder.  No input makes it produce a value of some other implementation. -/
theorem C19_codec_dispatch_sound (impls : Impls) (j : J) (r : Val) (h : dec (.iface impls) j = .ok r) :
    (j = .null ∧ r = .nilIface) ∨
    ∃ o tn t v, j = .obj o ∧ typenameOf o = .ok tn ∧ tn ≠ "" ∧ findImpl impls tn = some t ∧ dec t (.obj o) = .ok v ∧ r = .iface tn v := by
  rcases dec_iface_ok h with hn | ⟨o, tn, rfl, ht, hne, h1⟩
  · exact .inl hn
  · obtain ⟨t, v, h2, h3, h4⟩ := decImpl_ok h1
    exact .inr ⟨o, tn, t, v, rfl, ht, hne, h2, h3, h4⟩

/-- the decoder is a total function on (type tree, JSON value): the model has no panic outcome, and the
    known finding F-02 is visible in it — a null list of abstract elements becomes an EMPTY slice -/
theorem C19_codec_null_special_list (impls : Impls) : decSpecial (.slice (.iface impls)) .null = .ok (.slice []) := rfl

end Genq.Codec

namespace Genq
/-- **C19_codec_template_tie** — the templates (and FlattenedFields) extracted from /repo on this run are the ones
    the Codec model was written from: an edit of the generated (un)marshaling code breaks this equality even when no
    sampled response behaves differently. -/
theorem C19_codec_template_tie :
    Extracted.unmarshalTmpl = CodecSkel.unmarshalTmpl ∧
    Extracted.unmarshalHelperTmpl = CodecSkel.unmarshalHelperTmpl ∧
    Extracted.flattenedFieldsSkeleton = CodecSkel.flattenedFieldsSkeleton := ⟨rfl, rfl, rfl⟩
end Genq

namespace Genq

/-- **C19_possible_types_tie** — possibleObjectTypes: what the __typename switches list, as in /repo now (regenerated on every run), equal to the copy the model was written from -/
theorem C19_possible_types_tie : Extracted.convertTypeSkeleton = ConvSkel.convertTypeSkeleton := rfl

end Genq
