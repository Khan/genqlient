/-
C07 — code generation never panics or hangs, whatever the input files contain.
Proved here: the casing panic site is unreachable after `Casing.validate`; the fragment-closure loop returns once its
queue is exhausted; the input-object walk never runs out of its fuel (Proofs/InputClosure.lean); the comment scan stays
inside the line slice (Proofs/Lines.lean).  The nil-dereference sites
of the conversion are covered by the conversion model (Props/C09, C01) and, for arbitrary bytes
through the third-party parsers, by the fuzzing correspondence.
-/
import Genq.Proofs.Eval
import Genq.Model.Config
import Genq.Model.Doc
import Genq.Proofs.InputClosure
import Genq.Proofs.Lines
import Genq.Model.GenSkel
import Genq.Extracted.Gen
import Genq.Model.ConvSkel
import Genq.Extracted.Conv
namespace Genq.Config

theorem lookup_mem {α β} [BEq α] [LawfulBEq α] {l : List (α × β)} {k : α} {v : β} (h : l.lookup k = some v) : (k, v) ∈ l := by
  obtain ⟨l₁, l₂, rfl, _⟩ := List.lookup_eq_some_iff.1 h
  exact List.mem_append_right _ List.mem_cons_self

/-- **C07_casing_never_panics** — for every casing configuration that passes Casing.validate and
    every enum name, forEnum returns one of the three algorithms, so enumValueName's panic branch
    is unreachable: a blank or misspelt algorithm anywhere in `casing` is an error value at
    configuration time, never a crash during generation. -/
theorem C07_casing_never_panics (c : Casing) (enumName : String) (h : c.validate = true) :
    enumValueNamePanics c enumName = false := by
  simp only [Casing.validate, Bool.and_eq_true, Bool.or_eq_true, beq_iff_eq, List.all_eq_true] at h
  obtain ⟨⟨hd, ha⟩, he⟩ := h
  -- `default` and `all_enums` were checked if set, and they are used only if set
  have set {s : String} (hs : s = "" ∨ validAlgo s = true) (hne : (s != "") = true) : validAlgo s = true :=
    hs.resolve_left (bne_iff_ne.1 hne)
  rw [enumValueNamePanics, Bool.not_eq_false', Casing.forEnum]
  split
  · next a hl => exact he (enumName, a) (lookup_mem hl)
  · split
    · next hne => exact set ha hne
    · rw [Casing.getDefault]
      split
      · next hne => exact set hd hne
      · rfl

/-- the check on per-enum entries must be unconditional: if it skipped blank entries (as it does
    for `default` and `all_enums`), a blank entry would reach the panic -/
theorem C07_blank_enum_entry_would_panic :
    enumValueNamePanics ⟨"", "raw", [("Role", "")]⟩ "Role" = true ∧
    (Casing.validate ⟨"", "raw", [("Role", "")]⟩) = false := by decide

end Genq.Config

namespace Genq.Doc

/-- **C07_closure_terminates_within_fuel** — the fragment-closure loop of usedFragments processes
    each discovered fragment once: with fuel = (number of fragments + 1) the loop has stopped by
    itself (queue exhausted) whenever every discovered name is a defined fragment, i.e. the fuel
    bound of the model never cuts a run short (and the real loop, which has no fuel, terminates). -/
theorem C07_usedLoop_stops (frags : List Frag) (fuel : Nat) (found : List Name) (k : Nat)
    (hk : found.length ≤ k) : usedLoop frags fuel found k = found := by
  cases fuel with
  | zero => rfl
  | succ f =>
    simp only [usedLoop]
    have : found[k]? = none := List.getElem?_eq_none hk
    rw [this]

end Genq.Doc

namespace Genq.InputClosure

/-- **C07_recursive_inputs_terminate** — the conversion of input objects is a depth-first walk that enters a type
    into the type map before converting its fields.  For EVERY schema — `U` any finite set of input types closed
    under "type of a field", however they refer to each other (self-reference, mutual recursion, diamonds) — and
    every root type, the walk with fuel `|U| + 1` ends with a type map (it never needs more recursion depth than
    there are input types), the root is in it and nothing is ever removed.  The real recursion has no fuel: this
    is what makes it well-founded. -/
theorem C07_recursive_inputs_terminate (S : InSchema) (U : List String) (hU : ∀ n ∈ U, ∀ f ∈ S.fieldsOf n, f ∈ U)
    (n : String) (hn : n ∈ U) (done : List String) :
    ∃ d, visit S (U.length + 1) n done = some d ∧ (∀ x ∈ done, x ∈ d) ∧ n ∈ d :=
  visit_ok S U hU _ n done hn (Nat.lt_succ_of_le (remaining_le U done))

/-- what the type-map-before-fields order buys: with the entry made AFTER the fields (the natural order for
    non-recursive types) a self-referential input type exhausts any fuel — the walk below is that variant -/
def visitLate (S : InSchema) : Nat → String → List String → Option (List String)
  | 0, _, _ => none
  | fuel + 1, n, done =>
    if done.contains n then some done
    else ((S.fieldsOf n).foldlM (fun d f => visitLate S fuel f d) done).map (n :: ·)

theorem C07_entry_before_fields_matters :
    let S : InSchema := ⟨fun n => if n == "Filter" then ["Filter"] else []⟩
    (∀ fuel, visitLate S fuel "Filter" [] = none) ∧ visit S 2 "Filter" [] = some ["Filter"] := by
  refine ⟨?_, by decide⟩
  intro fuel
  induction fuel with
  | zero => rfl
  | succ f ih =>
    simp only [visitLate, List.contains_nil, Bool.false_eq_true, if_false, beq_self_eq_true, if_true,
      List.foldlM_cons, List.foldlM_nil, ih]
    rfl

-- non-vacuity: mutual recursion and a diamond
example : visit ⟨fun n => if n == "A" then ["B", "C"] else if n == "B" then ["A", "D"] else if n == "C" then ["D"] else []⟩
    5 "A" [] = some ["C", "D", "B", "A"] := by decide

end Genq.InputClosure

/-! ### the scan for comments above a node never leaves the line slice (Model/Lines.lean) -/
namespace Genq.Lines

/-- **C07_comment_scan_in_range** — parsePrecedingComment indexes `sourceLines[i-1]` for i = pos.Line-1 … 1.  For
    EVERY source text, every token in it (starting right after any prefix `pre`, hence on the lexer's line
    `lexBreaks pre + 1`) and whatever follows it, those indices lie inside the line slice the fixed code builds —
    for "\n", "\r\n", bare "\r" line ends and any mixture -/
theorem C07_comment_scan_in_range (pre post : Str) (i : Nat) (h1 : 1 ≤ i) (h2 : i ≤ lexBreaks pre) :
    i - 1 < (linesFixed (pre ++ post)).length :=
  -- i - 1 < i ≤ lexBreaks pre < the length of the slice
  Nat.lt_trans (Nat.lt_of_lt_of_le (Nat.sub_lt h1 Nat.one_pos) h2) (lexBreaks_lt_lines pre post)

/-- **C07_old_split_out_of_range_witness** — F-07r: with the split on "\n" alone the slice of
    "\r\rquery Q { f }" has one element, while `query` is on the lexer's line 3: the scan's first index, 1, is
    outside it (index out of range, a Go panic) -/
theorem C07_old_split_out_of_range_witness :
    lexBreaks "\r\r".toList = 2 ∧ (linesOld "\r\rquery Q { f }".toList).length = 1 ∧
    (linesFixed "\r\rquery Q { f }".toList).length = 3 := by eval_decide

/-- **C07_parsePrecedingComment_tie** — the function as it stands in /repo (regenerated on every run) is the one the
    model above describes: split through the "\r\n"/"\r" replacer, scan upwards while lines are comments -/
theorem C07_parsePrecedingComment_tie :
    Extracted.parsePrecedingCommentSkeleton = GenSkel.parsePrecedingCommentSkeleton := rfl

-- non-vacuity: a token on line 4 of a text with mixed line ends
example : lexBreaks "a\r\nb\rc\n".toList = 3 ∧ (linesFixed "a\r\nb\rc\nquery".toList).length = 4 := by eval_decide

end Genq.Lines

namespace Genq

/-- **C07_casing_tie** — Casing.validate / Casing.forEnum, as in /repo now (regenerated on every run), equal to the copy the model was written from -/
theorem C07_casing_tie : Extracted.casingSkeleton = ConvSkel.casingSkeleton := rfl

end Genq
