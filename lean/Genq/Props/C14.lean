/-
C14 — subscription data reaches only its own channel, in order, once; the channel closes once.
-/
import Genq.Proofs.WsInv
import Genq.Proofs.WsData
import Genq.Proofs.WsPrefix
import Genq.Model.ClientSkel
import Genq.Extracted.Client
namespace Genq.Ws

/-- **C14_nothing_after_end** — once a subscription has ended (server `complete` processed,
    Unsubscribe or Close having marked it) and the reader is not in the middle of a delivery
    to it, no event list — whatever the server sends, whatever the application calls —
    delivers anything more on its channel, and it stays ended. -/
theorem C14_nothing_after_end (w : World) (evs : List Ev) (i : SubId) (s : Sub)
    (hs : w.subs[i]? = some s) (he : s.ended = true) (hr : ∀ p, w.reader ≠ .send i p) :
    ∃ s', (run Flags.fixed w evs).subs[i]? = some s' ∧ s'.delivered = s.delivered ∧ s'.ended = true := by
  obtain ⟨s', hs', hd, he'⟩ := (run_quiet w evs i ⟨⟨s, hs, he⟩, hr⟩).2 s hs
  exact ⟨s', hs', hd, he' he⟩

/-- **C14_closed_exactly_once** — in every reachable world an ended subscription's channel has
    been closed exactly once, a live one's never. -/
theorem C14_closed_exactly_once (order : List SubId) (evs : List Ev) (i : SubId) (s : Sub)
    (hs : (run Flags.fixed { init with closeOrder := order } evs).subs[i]? = some s) :
    (s.ended = true → s.closes = 1) ∧ (s.ended = false → s.closes = 0) := by
  have : s.closes = if s.ended then 1 else 0 :=
    run_subsOK Flags.fixed rfl _ evs (init_subsOK order) s (List.mem_of_getElem? hs)
  constructor <;> intro h <;> rw [this, h] <;> rfl

/-- **C14_unsubscribe_ends** — the map update of a successful Unsubscribe marks the entry as
    ended (so, by C14_closed_exactly_once, its channel is closed). -/
theorem C14_unsubscribe_ends (w w' : World) (c : Nat) (i : SubId) (s : Sub)
    (hc : w.calls[c]? = some (.unsubMap i)) (hs : getSub w i = some s) (hr : s.registered = true)
    (hstep : stepCall Flags.fixed w c true = some w') :
    (∃ s', getSub w' i = some s' ∧ s'.ended = true) ∧ w'.calls[c]? = some (.ret true) := by
  have hn : next Flags.fixed w true (.unsubMap i) = some (.ends i true, .ret true) := by simp [next, unsub, hs, hr]
  rw [stepCall_eq hc, hn] at hstep
  cases hstep
  refine ⟨?_, setCall_apply_get _ _ hc⟩
  rcases endSub_guarded Flags.fixed rfl w i true with ⟨h, he⟩ | ⟨t, ht, -, h⟩ <;> simp only [Eff.apply, h]
  · exact ⟨s, hs, he s hs⟩
  · exact ⟨_, List.getElem?_set_self (List.getElem?_eq_some_iff.1 hs).1, rfl⟩

/-- F-13b on the pinned commit: a `next` after the server's `complete` is sent on the closed
    channel (the entry was not marked) -/
theorem C14_pinned_next_after_complete_witness :
    (run Flags.pinned init [.subscribe, .step 0, .rstep, .server (.complete 0), .rstep,
      .server (.next 0 5 true), .rstep]).panic = some (.sendOnClosed 0) := by decide

/-- **C14_prefix_in_order** — for every event list (any interleaving of application calls, reader
    steps, server frames, write failures and receives): what the application has received on a
    channel is a prefix of the `next` payloads the reader dispatched to that entry — delivered in
    order, none twice, none invented, none from another subscription's frames. -/
theorem C14_prefix_in_order (order : List SubId) (evs : List Ev) (i : SubId) (s : Sub)
    (hs : (run Flags.fixed { init with closeOrder := order } evs).subs[i]? = some s) :
    s.delivered <+: s.nexts := by
  have h := run_pinv Flags.fixed _ evs (init_pinv order)
  exact prefix_of_entryOK (h.1 i s hs)

/-- … and at most one dispatched payload is still undelivered (the one the reader is blocked on):
    the reader never runs ahead of the application. -/
theorem C14_at_most_one_in_flight (order : List SubId) (evs : List Ev) (i : SubId) (s : Sub)
    (hs : (run Flags.fixed { init with closeOrder := order } evs).subs[i]? = some s) :
    s.nexts = s.delivered ∨ ∃ p, s.nexts = s.delivered ++ [p] := by
  have h := run_pinv Flags.fixed _ evs (init_pinv order)
  exact entryOK_done (h.1 i s hs)

-- non-vacuity: a run that delivers two payloads in order and then ends the subscription
example : ((run Flags.fixed init [.subscribe, .step 0, .rstep, .server (.next 0 1 true), .recvData 0, .rstep,
    .server (.next 0 2 true), .recvData 0, .unsubscribe 0, .step 1, .step 1]).subs[0]?).map
    (fun s => (s.delivered, s.ended, s.closes)) = some ([1, 2], true, 1) := by decide

end Genq.Ws

namespace Genq

/-- **C14_operation_template_tie** — the generated `<Op>ForwardData` (decode the payload, assert the channel's type,
    send) as the template in /repo says (regenerated on every run) -/
theorem C14_operation_template_tie : Extracted.operationTmpl = ClientSkel.operationTmpl := rfl

end Genq
