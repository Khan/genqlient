/-
C11 — HTTP clients encode requests losslessly and refuse unsupported kinds.
Escaping, query parsing and url.Values are in Proofs/HttpEscape and Proofs/HttpUrl; what is particular to
createGetRequest (`getMap`) and to the gate is here.
-/
import Genq.Proofs.Eval
import Genq.Proofs.HttpUrl
import Genq.Model.ClientSkel
import Genq.Extracted.Client
namespace Genq.Http

/-- **C11_unescape_escape** — percent-encoding is lossless: for every byte string
    `url.QueryUnescape (url.QueryEscape s) = s`. -/
theorem C11_unescape_escape (s : Bytes) (hs : allBytes s = true) :
    queryUnescape (queryEscape s) = some s := unescape_escape s hs

/-- **C11_parse_inverts_encode** — url.ParseQuery inverts url.Values.Encode: any list of
    key/value byte strings (any bytes: '&', '=', ';', '%', '+', space, high bytes) is read back
    exactly, in order -/
theorem C11_parse_inverts_encode (kvs : List (Bytes × Bytes))
    (h : ∀ kv ∈ kvs, allBytes kv.1 = true ∧ allBytes kv.2 = true) :
    parseQuery (encodeValues kvs) = kvs := by
  unfold parseQuery encodeValues
  cases kvs with
  | nil => rfl
  | cons kv rest =>
    rw [List.map_cons, splitOn_intercalateAmp, ← List.map_cons,
      filterMap_map_of_leftInverse (fun kv hkv => parsePair_encodePair kv (h kv hkv))]
    -- owed to `splitOn_intercalateAmp`: an encoded pair holds no '&' (38), only escaped text and one '='
    intro x hx hc
    rw [← List.map_cons] at hx
    obtain ⟨p, hp, rfl⟩ := List.mem_map.1 hx
    exact absurd (mem_encodePair (h p hp) hc) (by decide)

/-- the multimap createGetRequest ends up with, before encoding -/
def getMap (existing query opName : Bytes) (vars : Option Bytes) : MultiMap :=
  let m0 : MultiMap := (parseQuery existing).foldl (fun m kv => mmAdd m kv.1 kv.2) []
  let m1 := if query.isEmpty = false then mmSet m0 kQuery query else m0
  let m2 := if opName.isEmpty = false then mmSet m1 kOpName opName else m1
  if vars.isSome = true then mmSet m2 kVariables (vars.getD []) else m2

theorem getRawQuery_eq (existing query opName : Bytes) (vars : Option Bytes) :
    getRawQuery existing query opName vars =
      if query.isEmpty = false ∨ opName.isEmpty = false ∨ vars.isSome = true then
        encodeValues (flattenMM (sortMM (getMap existing query opName vars)))
      else existing := by
  cases query <;> cases opName <;> cases vars <;> rfl

/-- a conditional url.Values.Set -/
theorem mmSet_if (c : Prop) [Decidable c] {m : MultiMap} (h : KD m) (k0 v k : Bytes) :
    KD (if c then mmSet m k0 v else m) ∧
    lookupMM k (if c then mmSet m k0 v else m) = if (k0 == k) = true ∧ c then [v] else lookupMM k m := by
  by_cases hc : c
  · simp only [hc, if_true, and_true, mmSet_eq]
    exact ⟨KD_mmUpd _ _ h, lookupMM_mmUpd _ _ _ h⟩
  · simp only [hc, if_false, and_false]
    exact ⟨h, trivial⟩

/-- what url.Values.Get / [] would return for key k in the map -/
theorem getMap_spec (existing query opName : Bytes) (vars : Option Bytes) (k : Bytes) :
    KD (getMap existing query opName vars) ∧
    lookupMM k (getMap existing query opName vars) =
      if (kVariables == k) = true ∧ vars.isSome = true then [vars.getD []]
      else if (kOpName == k) = true ∧ opName.isEmpty = false then [opName]
      else if (kQuery == k) = true ∧ query.isEmpty = false then [query]
      else valuesOf k (parseQuery existing) := by
  have h0 := foldl_mmAdd k (parseQuery existing) [] List.nodup_nil
  have h1 := mmSet_if (query.isEmpty = false) h0.1 kQuery query k
  have h2 := mmSet_if (opName.isEmpty = false) h1.1 kOpName opName k
  have h3 := mmSet_if (vars.isSome = true) h2.1 kVariables (vars.getD []) k
  rw [h2.2, h1.2, h0.2] at h3
  exact h3

theorem of_mem_ite_singleton {α : Type} {c : Prop} [Decidable c] {a x : α} {l : List α}
    (h : x ∈ if c then [a] else l) : c ∧ x = a ∨ x ∈ l := by
  split at h
  · next hc => exact .inl ⟨hc, List.mem_singleton.1 h⟩
  · exact .inr h

/-- every pair of the map is made of byte strings: it is the request's own or came from the endpoint's query string -/
theorem getMap_bytes (existing query opName : Bytes) (vars : Option Bytes)
    (he : allBytes existing = true) (hq : allBytes query = true) (ho : allBytes opName = true)
    (hv : ∀ v, vars = some v → allBytes v = true) :
    ∀ kv ∈ flattenMM (sortMM (getMap existing query opName vars)), allBytes kv.1 = true ∧ allBytes kv.2 = true := by
  intro (k, v) hkv
  have hs := getMap_spec existing query opName vars k
  rw [← mem_valuesOf, valuesOf_flatten, lookupMM_perm (sortMM_perm _) hs.1, hs.2] at hkv
  rcases of_mem_ite_singleton hkv with ⟨h, rfl⟩ | hkv
  · obtain ⟨w, rfl⟩ := Option.isSome_iff_exists.1 h.2
    exact ⟨beq_iff_eq.1 h.1 ▸ (by decide : allBytes kVariables = true), hv w rfl⟩
  rcases of_mem_ite_singleton hkv with ⟨h, rfl⟩ | hkv
  · exact ⟨beq_iff_eq.1 h.1 ▸ (by decide : allBytes kOpName = true), ho⟩
  rcases of_mem_ite_singleton hkv with ⟨h, rfl⟩ | hkv
  · exact ⟨beq_iff_eq.1 h.1 ▸ (by decide : allBytes kQuery = true), hq⟩
  exact parseQuery_bytes he _ (mem_valuesOf.1 hkv)

/-- **C11_get_url_decodes** — the GET URL is lossless: for every endpoint query string and every
    request (any bytes in the document, operation name and marshaled variables), parsing the URL
    createGetRequest builds gives back, for every key k, exactly: the request's variables under
    "variables", its operation name under "operationName", its document under "query" (each once,
    replacing whatever the endpoint had under those names), and for every other key the
    endpoint's own values, in their order.  Nothing else is added and nothing is lost. -/
theorem C11_get_url_decodes (existing query opName : Bytes) (vars : Option Bytes) (k : Bytes)
    (he : allBytes existing = true) (hq : allBytes query = true) (ho : allBytes opName = true)
    (hv : ∀ v, vars = some v → allBytes v = true)
    (hu : query.isEmpty = false ∨ opName.isEmpty = false ∨ vars.isSome = true) :
    valuesOf k (parseQuery (getRawQuery existing query opName vars)) =
      if (kVariables == k) = true ∧ vars.isSome = true then [vars.getD []]
      else if (kOpName == k) = true ∧ opName.isEmpty = false then [opName]
      else if (kQuery == k) = true ∧ query.isEmpty = false then [query]
      else valuesOf k (parseQuery existing) := by
  have hs := getMap_spec existing query opName vars k
  rw [getRawQuery_eq, if_pos hu, C11_parse_inverts_encode _ (getMap_bytes _ _ _ _ he hq ho hv), valuesOf_flatten,
    lookupMM_perm (sortMM_perm _) hs.1, hs.2]

/-- an empty request leaves the endpoint's query string untouched -/
theorem C11_get_url_untouched_when_empty (existing : Bytes) :
    getRawQuery existing [] [] none = existing := rfl

theorem trimLeft_eq : ∀ v : List Nat, trimLeft v = v.dropWhile isSpace
  | [] => rfl
  | c :: v => by rw [trimLeft, List.dropWhile_cons, trimLeft_eq v]

theorem hasPrefix_eq : ∀ p s : List Nat, hasPrefix p s = p.isPrefixOf s
  | [], _ => by rw [hasPrefix, List.isPrefixOf_nil_left]
  | _ :: _, [] => rfl
  | _ :: p, _ :: s => by rw [hasPrefix, List.isPrefixOf_cons_cons, hasPrefix_eq p s]

/-- leading white space is invisible to the gate -/
theorem kindGate_spaces (m : Method) (ws : List Nat) (c : Nat) (x : List Nat) (h : ws.all isSpace = true) :
    kindGate m (ws ++ c :: x) = kindGate m (c :: x) := by
  have : (ws ++ c :: x).isEmpty = false := by cases ws <;> rfl
  unfold kindGate
  rw [this, trimLeft_eq (ws ++ _), List.dropWhile_append_of_pos (List.all_eq_true.1 h), ← trimLeft_eq]
  rfl

/-- **C11_gate_on_emitted_documents** — for every document that starts, after any white space,
    with its operation keyword (what the generator emits: `query Name…`, `mutation Name…`,
    `subscription Name…`), whatever follows: the GET client refuses mutations and subscriptions,
    the POST client refuses subscriptions, and everything else passes the gate -/
theorem C11_gate_on_emitted_documents (ws rest : List Nat) (h : ws.all isSpace = true) :
    kindGate .get (ws ++ (kwMutation ++ rest)) = .refuseMutation ∧
    kindGate .get (ws ++ (kwSubscription ++ rest)) = .refuseSubscription ∧
    kindGate .post (ws ++ (kwSubscription ++ rest)) = .refuseSubscription ∧
    kindGate .get (ws ++ (kwQuery ++ rest)) = .pass ∧
    kindGate .post (ws ++ (kwQuery ++ rest)) = .pass ∧
    kindGate .post (ws ++ (kwMutation ++ rest)) = .pass :=
  -- past the white space the gate evaluates on the keyword's literal bytes, whatever `rest` is
  ⟨(kindGate_spaces _ ws _ _ h).trans rfl, (kindGate_spaces _ ws _ _ h).trans rfl,
   (kindGate_spaces _ ws _ _ h).trans rfl, (kindGate_spaces _ ws _ _ h).trans rfl,
   (kindGate_spaces _ ws _ _ h).trans rfl, (kindGate_spaces _ ws _ _ h).trans rfl⟩

/-- the gate is a text-prefix test, so the unrestricted statement ("never transmits a mutation")
    is false of it: a document that starts with a comment passes (finding F-11) -/
theorem C11_gate_comment_bypass_witness :
    kindGate .get ([35, 99, 10] ++ kwMutation ++ [32, 77, 123, 102, 125]) = .pass := by decide

/-- non-vacuity: a string with every class of byte (plain, space, reserved, high) -/
example : queryUnescape (queryEscape [97, 32, 38, 61, 43, 37, 255, 0]) = some [97, 32, 38, 61, 43, 37, 255, 0] := by
  eval_decide

-- non-vacuity of C11_get_url_decodes: endpoint "?a=1&query=old", document "{a}" with '&' and '=' in the name
example : parseQuery (getRawQuery [97, 61, 49, 38, 113, 117, 101, 114, 121, 61, 111] [123, 97, 125] [38, 61] (some [123, 125]))
    = [([97], [49]), (kOpName, [38, 61]), (kQuery, [123, 97, 125]), (kVariables, [123, 125])] := by eval_decide

end Genq.Http

namespace Genq

/-- **C11_client_skeleton_tie** — graphql/client.go's newClient / MakeRequest / createPostRequest / createGetRequest
    as they stand in /repo (regenerated on every run) have the control and effect structure the model was written
    from: the gate on the leading keyword before any request is built, json.Marshal for POST, merge into the
    endpoint's parsed query and re-encode for GET -/
theorem C11_client_skeleton_tie : Extracted.httpClientSkeleton = ClientSkel.httpClientSkeleton := rfl

end Genq
