/-
C18 — diagnostics point at the file and line of the offending operation.
The position arithmetic of generate/errors.go (errorPos.String / splitFilename) on plain file
names and on the pseudo file names `<file>.go:<line>` that parse.go gives to string literals; and which
position `errorf` gives a wrapped error and what text follows it (Model/Errors.lean).
-/
import Genq.Proofs.Eval
import Genq.Model.Files
import Genq.Model.Errors
import Genq.Model.ConvSkel
import Genq.Extracted.Conv
namespace Genq.Files

theorem splitOnColon_noColon (s : Str) (h : ∀ c ∈ s, c ≠ ':') : splitOnColon s = [s] := by
  induction s with
  | nil => rfl
  | cons c cs ih =>
    rw [splitOnColon, if_neg (by simpa using h c List.mem_cons_self), ih fun x hx => h x (List.mem_cons_of_mem _ hx)]

theorem splitOnColon_append (a b : Str) (ha : ∀ c ∈ a, c ≠ ':') :
    splitOnColon (a ++ ':' :: b) = a :: splitOnColon b := by
  induction a with
  | nil => rfl
  | cons c cs ih =>
    rw [List.cons_append, splitOnColon, if_neg (by simpa using ha c List.mem_cons_self),
      ih fun x hx => ha x (List.mem_cons_of_mem _ hx)]

/-- errorPos.String once the file name is split: `name:n` for the line `n` it computes, the bare name for 0. -/
theorem posString_of_split (fn name : Str) (off : Int) (line n : Nat)
    (hs : splitFilename fn = (name, off)) (hn : off + line = n) :
    posString fn line = if n = 0 then name else name ++ ':' :: natToStr n := by
  rw [posString, hs]
  simp only [hn, bne_iff_ne, ne_eq, Int.natCast_eq_zero, ite_not]
  rfl

/-- **C18_pos_string_plain** — for a file whose name has no colon, a position renders as
    `name:line` (and as the bare name when there is no line). -/
theorem C18_pos_string_plain (name : Str) (line : Nat) (h : ∀ c ∈ name, c ≠ ':') :
    posString name line = if line = 0 then name else name ++ ':' :: natToStr line :=
  posString_of_split name name 0 line line (by rw [splitFilename, splitOnColon_noColon name h]) (Int.zero_add _)

/-- **C18_pos_string_literal** — for the pseudo file `file:L` that stands for a string literal
    whose opening quote is on line L of `file`, line `l` of the literal's text renders as
    `file:(L - 1 + l)`: the line in the Go file, provided the literal's text is handed to the
    GraphQL parser unchanged (so that its first line is on line L). -/
theorem C18_pos_string_literal (file : Str) (L l : Nat) (hf : ∀ c ∈ file, c ≠ ':')
    (hL : 1 ≤ L) (hl : 1 ≤ l) (hnum : atoi (natToStr L) = some (L : Int)) (hd : ∀ c ∈ natToStr L, c ≠ ':') :
    posString (file ++ ':' :: natToStr L) l = file ++ ':' :: natToStr (L - 1 + l) := by
  rw [posString_of_split _ file (L - 1) l (L - 1 + l)
    (by simp only [splitFilename, splitOnColon_append file _ hf, splitOnColon_noColon _ hd, hnum]) (by omega),
    if_neg (by omega)]

/-- the decimal rendering of a line number is read back by Atoi (instances; the general fact is
    Nat.repr/Atoi round-trip, sampled by the correspondence on every Go-literal case) -/
theorem C18_atoi_samples : atoi (natToStr 1) = some 1 ∧ atoi (natToStr 17) = some 17 ∧ atoi (natToStr 1204) = some 1204 ∧
    atoi "-3".toList = some (-3) ∧ atoi "+7".toList = some 7 ∧ atoi "1x".toList = none ∧
    atoi "9223372036854775808".toList = none := by eval_decide

/-- F-18c: a file name that itself contains a colon is mis-split: the part after the colon is
    dropped from the diagnostic -/
theorem C18_colon_in_filename_witness :
    posString "dir:x/ops.graphql".toList 3 = "dir:3".toList := by eval_decide

-- non-vacuity
example : posString "pkg/queries.go:12".toList 4 = "pkg/queries.go:15".toList := by eval_decide
example : posString "ops.graphql".toList 7 = "ops.graphql:7".toList := by eval_decide

end Genq.Files

/-! ### errorf: which position a wrapped error ends up with (Model/Errors.lean; tied by the driver op
    `errors.errorf`, which the harness compares with the real `errorf` on random error trees) -/
namespace Genq.Errors
open Genq.Files (Str posString)

theorem wrapAll_genq (ws : List (Str × Str)) (p : Option Pos) (m : Str) (w0 : E) :
    ∃ w', wrapAll ws (.genq p m w0) = .genq p (wrapMsg ws m) w' := by
  induction ws with
  | nil => exact ⟨w0, rfl⟩
  | cons ab ws ih =>
    obtain ⟨w', h⟩ := ih
    -- a position-less `errorf` around a genqlient error takes over its position and wraps its bare message
    exact ⟨.genq p (wrapMsg ws m) w', by rw [wrapAll, h]; rfl⟩

/-- The text of an `errorf` error under any number of position-less wraps: its position (if any) in front, then
    the messages nested around its own. -/
theorem wrapAll_errorf_text (ws : List (Str × Str)) (pos : Option Pos) (a b : Str) (w : E) :
    (wrapAll ws (errorf pos a b w)).text =
      (E.genq (errorfPos pos w) (wrapMsg ws (if isNone w then a ++ b else a ++ errText w ++ b)) w).text := by
  obtain ⟨w', h⟩ := wrapAll_genq ws (errorfPos pos w) (if isNone w then a ++ b else a ++ errText w ++ b) w
  rw [errorf, h]
  cases errorfPos pos w <;> rfl

/-- **C18_errorf_position_priority** — the decision stated outright: an explicit position wins; otherwise the
    nearest genqlient error inside decides (with whatever position it has); otherwise the nearest GraphQL error
    that names a file, with its first location's line; otherwise there is none -/
theorem C18_errorf_position_priority (pos : Option Pos) (a b : Str) (w : E) :
    ∃ m, errorf pos a b w = .genq (errorfPos pos w) m w ∧
      (∀ p, pos = some p → errorfPos pos w = some p) ∧
      (∀ gp gm, pos = none → asGenq w = some (gp, gm) → errorfPos pos w = gp) ∧
      (∀ f l gm, pos = none → asGenq w = none → asGql w = some (f, l, gm) →
          errorfPos pos w = if f.isEmpty then none else some ⟨f, l.getD 0⟩) ∧
      (pos = none → asGenq w = none → asGql w = none → errorfPos pos w = none) := by
  refine ⟨_, rfl, ?_, ?_, ?_, ?_⟩
  · intro p h; subst h; rfl
  · intro gp gm h hg; subst h; simp only [errorfPos, hg]
  · intro f l gm h hg hq; subst h; simp only [errorfPos, hg, hq]
  · intro h hg hq; subst h; simp only [errorfPos, hg, hq]

/-- **C18_wrapped_position_survives** — an error made with an explicit position `p`, wrapped by ANY number of
    position-less errorf calls, prints as `p: ` followed by the messages nested around the innermost one; the
    position is at the front and is not repeated in the middle -/
theorem C18_wrapped_position_survives (ws : List (Str × Str)) (p : Pos) (a b : Str) (w : E) :
    (wrapAll ws (errorf (some p) a b w)).text =
      posString p.file p.line ++ ": ".toList ++
        wrapMsg ws (if isNone w then a ++ b else a ++ errText w ++ b) :=
  wrapAll_errorf_text ws (some p) a b w

/-- **C18_validator_error_position** — a validation failure (gqlerror.List whose first error names file `f` and
    line `l`), wrapped without an explicit position any number of times, prints as `f:l: …` -/
theorem C18_validator_error_position (ws : List (Str × Str)) (f : Str) (l : Nat) (m : Str)
    (rest : List (Str × Option Nat × Str)) (a b : Str) (hf : f.isEmpty = false) :
    (wrapAll ws (errorf none a b (.gqlList ((f, some l, m) :: rest)))).text =
      posString f l ++ ": ".toList ++ wrapMsg ws (a ++ m ++ b) := by
  have : errorfPos none (.gqlList ((f, some l, m) :: rest)) = some ⟨f, l⟩ := by
    simp only [errorfPos, asGenq, asGql, hf, Bool.false_eq_true, if_false, Option.getD_some]
  rw [wrapAll_errorf_text, this]
  rfl

/-- an outer explicit position replaces an inner one (witness): the call sites must therefore pass a position
    only where they know the offending node better than the error they wrap — decided per input by the
    differential runs of this property -/
theorem C18_outer_explicit_position_replaces_inner_witness :
    (errorf (some ⟨"a.graphql".toList, 2⟩) "x: ".toList [] (errorf (some ⟨"a.graphql".toList, 9⟩) "bad".toList [] .none)).text
      = "a.graphql:2: x: bad".toList := by eval_decide

-- non-vacuity: two wraps around a positioned error, and around a validator error
example : (wrapAll [("op: ".toList, []), ("field: ".toList, " (sic)".toList)]
    (errorf (some ⟨"q.go:10".toList, 3⟩) "bad".toList [] .none)).text = "q.go:12: op: field: bad (sic)".toList := by eval_decide
example : (wrapAll [("validating: ".toList, [])] (errorf none [] []
    (.gqlList [("ops.graphql".toList, some 4, "Unknown field".toList)]))).text = "ops.graphql:4: validating: Unknown field".toList := by eval_decide

end Genq.Errors

namespace Genq

/-- **C18_parse_tie** — how sources get their (pseudo) file names, as in /repo now (regenerated on every run), equal to the copy the model was written from -/
theorem C18_parse_tie : Extracted.parseSkeleton = ConvSkel.parseSkeleton := rfl

/-- **C18_errors_tie** — errorPos.String, splitFilename, genqlientError.Error, errorf, as in /repo now (regenerated on every run), equal to the copy the model was written from -/
theorem C18_errors_tie : Extracted.errorsSkeleton = ConvSkel.errorsSkeleton := rfl

end Genq
