/-
C06 — generated types round-trip through JSON and re-marshal to what they decoded.
Proved here, in three parts:
  * on the literal queue loop (Model/Types.lean): the flattened field list that MarshalJSON serialises has every JSON
    name once — also when several embedded fragments (or the struct itself and a fragment) carry it — and the struct's
    own leading field is never displaced;
  * on the model of the generated (un)marshalers (Model/Codec.lean): `dec t (enc t v) = ok v` for well-formed `v`,
    and for every decoded value up to the F-02 normalisation, with witnesses for the known findings;
  * the two descriptions of FlattenedFields select the same names in the same order (Proofs/FlattenAgree.lean).
The round-trip equalities on the compiled code are decided by the probe.
-/
import Genq.Proofs.Eval
import Genq.Model.Types
import Genq.Model.Codec
import Genq.Model.CodecSkel
import Genq.Extracted.Codec
import Genq.Proofs.CodecRT
import Genq.Proofs.CodecImg
import Genq.Proofs.FlattenAgree
namespace Genq.Types

/-- what is accumulated only grows -/
theorem flattenLoop_mono (fuel : Nat) (q : List SField) (seen : List Name) (acc : List (Name × Name)) :
    ∀ x ∈ acc, x ∈ flattenLoop fuel q seen acc := by
  -- the cases of the loop: no fuel; empty queue; an embedded struct; a name seen before; a new name
  fun_induction flattenLoop fuel q seen acc with
  | case1 | case2 => exact fun _ hx => hx
  | case3 fuel _ sub q seen acc ih => exact ih
  | case4 fuel g j q seen acc _ ih => exact ih
  | case5 fuel g j q seen acc _ ih => exact fun x hx => ih x (List.mem_append_left _ hx)

/-- **C06_unique_keys** — the struct MarshalJSON serialises has each JSON name exactly once,
    however many embedded fragment structs (at whatever depth) carry a field of that name. -/
theorem C06_unique_keys (fields : List SField) : ((flattenedFields fields).map (·.2)).Nodup :=
  FlattenAgree.flattenedFields_eq_winners fields ▸ Codec.winners_nodup _

/-- **C06_direct_field_wins** — a field of the struct itself is never displaced by a field of an
    embedded fragment: the first direct field is always serialised from the struct's own value -/
theorem C06_direct_field_wins (g j : Name) (rest : List SField) :
    (g, j) ∈ flattenedFields (.plain g j :: rest) :=
  -- the first pop puts `(g, j)` into the empty accumulator
  flattenLoop_mono (sizeList (.plain g j :: rest)) rest [j] [(g, j)] _ List.mem_cons_self

/-- the defect a de-duplication by Go name instead of JSON name would cause (two embedded
    fragments carrying `id`, one renamed on the Go side): the key would be emitted twice —
    witness that uniqueness is really about JSON names -/
theorem C06_json_name_is_the_key :
    flattenedFields [.embed "A" [.plain "Id" "id"], .embed "B" [.plain "ID" "id", .plain "Name" "name"]]
      = [("Id", "id"), ("Name", "name")] := by eval_decide

end Genq.Types

/-! ### the round trip, on the model of the generated (un)marshalers (Model/Codec.lean) -/

namespace Genq.Codec
open Genq.Types (J)

/-- **C06_roundtrip_model** — for every response type tree without fold twins and every value `v` of the shape
    decoding produces (canonical leaves; one JSON per response key across a struct and its embedded fragments;
    an implementation's own `__typename` field equal to the name it was dispatched on), unmarshaling what
    MarshalJSON wrote yields `v` again: `dec t (enc t v) = ok v`.  Any depth of lists, pointers, embedded
    fragments and abstract types. -/
theorem C06_roundtrip_model (t : Ty) (v : Val) (h : WF t v) (hf : noFoldTwins t = true) : dec t (enc t v) = .ok v :=
  rt t v h hf

/-- the same for a field handled through json.RawMessage (abstract or custom-marshaled, at any list depth) -/
theorem C06_roundtrip_special_model (t : Ty) (v : Val) (h : WFSpecial t v) (hf : noFoldTwins t = true) :
    decSpecial t (encSpecial t v) = .ok v :=
  rtSpecial t v h hf

/-- what the marshaled object guarantees each field: it reads back exactly the JSON written for its key -/
theorem C06_marshaled_object_covers_every_field (fs : Flds) (vs : List Val)
    (hf : noFoldTwinsIn ("__typename" :: closureNames fs) = true) (hc : Coherent (encAll fs vs 0)) :
    ∀ e ∈ encAll fs vs 0, lookup (winners (encAll fs vs 0)) e.2.1 = some e.2.2 :=
  structCovers fs vs hf hc

/-- **C06_marshaled_keys_unique_model** — whatever struct value is marshaled (any nesting of embedded fragments,
    any number of carriers per key), the object MarshalJSON writes has every key exactly once -/
theorem C06_marshaled_keys_unique_model (fs : Flds) (vs : List Val) :
    ((winners (encAll fs vs 0)).map (·.1)).Nodup :=
  winners_nodup _

/-- **C06_typename_once_model** — what the marshal helper writes for a non-nil abstract value whose implementation
    is a struct: the key `__typename` exactly once (first, holding the name dispatched on), also when the
    implementation has a `__typename` field of its own -/
theorem C06_typename_once_model (fs : Flds) (vs : List Val) (tn : String) :
    ∃ rest, encHead (.struct fs) tn (.struct vs) = .obj (("__typename", .str tn) :: rest) ∧
      ∀ kv ∈ rest, kv.1 ≠ "__typename" :=
  ⟨_, rfl, fun _ hkv => bne_iff_ne.1 (List.mem_filter.1 hkv).2⟩

/-- **C06_roundtrip_of_decoded_model** — the first sentence of C06 on the model, for EVERY input: whatever JSON
    value `j` the generated decoder accepts for a response type `t`, marshaling the decoded value and decoding again
    yields that value — up to `norm`, which turns a nil list handled through json.RawMessage into an empty one
    (known finding F-02) and changes nothing else.  Hypotheses on the TYPE only: no fold twins (excluded point:
    F-02t) and `TyOK` — one Go type per response key within a struct and its embedded fragments (excluded point:
    F-06k), implementations are structs whose `__typename` field is a string (what genqlient generates).  In the
    model the three known findings are therefore the only ways a decoded value can fail to come back. -/
theorem C06_roundtrip_of_decoded_model (t : Ty) (j : J) (v : Val) (hok : TyOK t) (hf : noFoldTwins t = true)
    (h : dec t j = .ok v) : dec t (enc t v) = .ok (norm t v) :=
  roundtrip_of_decoded t j v hok hf h

/-- every decoded value has the decoded shape (canonical leaves, one JSON per key, `__typename` fields equal to
    the dispatched name, non-null under pointers) — the lemma the previous theorem rests on -/
theorem C06_decoded_values_are_wellformed (t : Ty) (j : J) (v : Val) (hok : TyOK t) (h : dec t j = .ok v) : WFn t v :=
  (imT t j v hok h).1

section Witness
-- the witness's program: `user { pet { name } ...A }` with `fragment A on User { pet { age } }` (`tUserK`)
def tPetName : Ty := .struct (.cons "name" false (.leaf .str) .nil)
def tPetAge : Ty := .struct (.cons "age" false (.leaf .int) .nil)
def tUserK : Ty := .struct (.cons "pet" false tPetName (.cons "A" true (.struct (.cons "pet" false tPetAge .nil)) .nil))
def respK : J := .obj [("pet", .obj [("name", .str "rex"), ("age", .num "3")])]

/-- **C06_roundtrip_needs_coherence_witness** (known finding F-06k, replayed on the compiled code by
    corpus/C06/f06k-…): one response key with different sub-selections in the struct and in an embedded fragment.
    Decoding fills both Go fields; marshaling writes only the struct's own (`age` is lost); decoding that again
    leaves the fragment's copy without its `age`.  So `Coherent` cannot be dropped from `C06_roundtrip_model`. -/
theorem C06_roundtrip_needs_coherence_witness :
    dec tUserK respK = .ok (.struct [.struct [.leaf (.str "rex")], .struct [.struct [.leaf (.num "3")]]]) ∧
    enc tUserK (.struct [.struct [.leaf (.str "rex")], .struct [.struct [.leaf (.num "3")]]]) = .obj [("pet", .obj [("name", .str "rex")])] ∧
    dec tUserK (.obj [("pet", .obj [("name", .str "rex")])]) = .ok (.struct [.struct [.leaf (.str "rex")], .struct [.struct [.leaf (.num "0")]]]) :=
  ⟨rfl, rfl, rfl⟩

/-- **C06_null_object_with_abstract_list_witness** (known finding F-02 seen through the round trip): a nullable
    object held by value whose struct has a list of an abstract type.  `null` leaves the struct untouched (the
    list stays nil), MarshalJSON writes `[]` for it (make(…, len(src))), decoding that gives an EMPTY list: the
    value obtained by unmarshaling does not survive the round trip.  This is why `C06_roundtrip_model` is stated
    for well-formed values (lists handled through json.RawMessage are never nil) and not for every decoded value. -/
theorem C06_null_object_with_abstract_list_witness :
    let tBox : Ty := .struct (.cons "animals" false (.slice (.iface (.cons "Dog" (.struct .nil) .nil))) .nil)
    let t : Ty := .struct (.cons "box" false tBox .nil)
    dec t (.obj [("box", .null)]) = .ok (.struct [.struct [.nilSlice]]) ∧
    enc t (.struct [.struct [.nilSlice]]) = .obj [("box", .obj [("animals", .arr [])])] ∧
    dec t (.obj [("box", .obj [("animals", .arr [])])]) = .ok (.struct [.struct [.slice []]]) :=
  ⟨rfl, rfl, rfl⟩

-- non-vacuity of `C06_roundtrip_model`: a struct with an embedded fragment sharing a key, a list of an abstract
-- type and a pointer — the decoded value is well-formed and the type has no fold twins
def tDog : Ty := .struct (.cons "__typename" false (.leaf .str) (.cons "barks" false (.leaf .bool) .nil))
def tCat : Ty := .struct (.cons "__typename" false (.leaf .str) (.cons "lives" false (.leaf .int) .nil))
def tEx : Ty := .struct (.cons "id" false (.leaf .str) (.cons "F" true (.struct (.cons "id" false (.leaf .str) (.cons "nick" false (.ptr (.leaf .str)) .nil)))
  (.cons "pets" false (.slice (.iface (.cons "Dog" tDog (.cons "Cat" tCat .nil)))) .nil)))
def vEx : Val := .struct [.leaf (.str "u1"), .struct [.leaf (.str "u1"), .ptr (.leaf (.str "n"))],
  .slice [.iface "Dog" (.struct [.leaf (.str "Dog"), .leaf (.bool true)]), .nilIface]]

example : noFoldTwins tEx = true := by eval_decide
example : TyOK tEx := by
  simp [TyOK, FldsOK, ImplsOK, ImplTyOK, SameKeyTy, TypenameIsStr, closureFields, embFields, isStructTy, tEx, tDog, tCat]
example : norm tEx vEx = vEx := rfl
-- what `norm` does: the F-02 point
example : norm (.struct (.cons "xs" false (.slice (.iface .nil)) .nil)) (.struct [.nilSlice]) = .struct [.slice []] := rfl
example : dec tEx (enc tEx vEx) = .ok vEx := rfl
example : dec tEx (.obj [("id", .str "u1"), ("nick", .str "n"), ("pets", .arr [.obj [("__typename", .str "Dog"), ("barks", .bool true)], .null])]) = .ok vEx := rfl
end Witness

end Genq.Codec

namespace Genq
/-- **C06_codec_template_tie** — the templates (and FlattenedFields) extracted from /repo on this run are the ones
    the Codec model was written from: an edit of the generated (un)marshaling code breaks this equality even when no
    sampled response behaves differently. -/
theorem C06_codec_template_tie :
    Extracted.unmarshalTmpl = CodecSkel.unmarshalTmpl ∧
    Extracted.unmarshalHelperTmpl = CodecSkel.unmarshalHelperTmpl ∧
    Extracted.marshalTmpl = CodecSkel.marshalTmpl ∧
    Extracted.marshalHelperTmpl = CodecSkel.marshalHelperTmpl ∧
    Extracted.flattenedFieldsSkeleton = CodecSkel.flattenedFieldsSkeleton := ⟨rfl, rfl, rfl, rfl, rfl⟩
end Genq

/-! ### the two models of FlattenedFields agree (Proofs/FlattenAgree.lean) -/
namespace Genq.FlattenAgree
open Genq.Types (SField flattenedFields)
open Genq.Codec (Flds Val winners encAll WFFields)

/-- **C06_flatten_models_agree** — for EVERY forest of struct fields (any depth of embedding, any repetition of JSON
    names) the literal queue loop of generate/types.go FlattenedFields (pop the front, an embedded struct's fields go to
    the back, the first field seen for a JSON name wins) selects the same JSON names, in the same order, as "all
    fields ordered by embedding depth, declaration order within a depth, first name wins": breadth-first queue order
    is the stable sort by depth -/
theorem C06_flatten_models_agree (fields : List SField) :
    (flattenedFields fields).map (·.2) = (winners (entriesL 0 fields)).map (·.1) :=
  flattenedFields_eq_winners fields

/-- **C06_marshaled_keys_are_flattenedFields** — so the keys the model's MarshalJSON writes for any struct type and any
    well-formed value of it are exactly, and in the order of, what the queue loop selects for that type -/
theorem C06_marshaled_keys_are_flattenedFields (fs : Flds) (vs : List Val) (h : WFFields fs vs) :
    (winners (encAll fs vs 0)).map (·.1) = (flattenedFields (toS fs)).map (·.2) :=
  enc_keys_eq_flattenedFields fs vs h

-- non-vacuity: a key carried at depth 0 after an embedded struct that carries it at depth 1 — the shallower one wins
-- in both models, although the embedded struct is declared first
example : (flattenedFields [.embed "Frag" [.plain "Id" "id", .plain "Name" "name"], .plain "Id" "id"]).map (·.2) = ["id", "name"] ∧
    (winners (entriesL 0 [.embed "Frag" [.plain "Id" "id", .plain "Name" "name"], .plain "Id" "id"])).map (·.1) = ["id", "name"] := by
  eval_decide

end Genq.FlattenAgree
