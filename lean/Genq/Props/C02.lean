/-
C02 — generated response types decode every spec-conformant response faithfully.
Proved here: the struct generated for a concrete object type carries exactly the response keys
the GraphQL specification's CollectFields yields for that runtime type — fragment type
conditions, untyped fragments and nesting to any depth included — because genqlient's
fragmentMatches coincides with DoesFragmentTypeApply on object types; and, on the model of the
generated decoder (Model/Codec.lean), every carrier of a response key holds the decoding of the
value the object has for that key.  That encoding/json itself puts each value into the field
tagged with its key, and the dispatch on __typename (C19), are checked on the compiled code
against an independent reference executor.
-/
import Genq.Proofs.Eval
import Genq.Model.Collect
import Genq.Model.CollectSpread
import Genq.Model.Codec
import Genq.Model.CodecSkel
import Genq.Extracted.Codec
import Genq.Proofs.CodecFaithful
import Genq.Model.ConvSkel
import Genq.Extracted.Conv
namespace Genq.Collect

/-- **C02_fragmentMatches_is_DoesFragmentTypeApply** — on a well-formed schema, for an object
    type, genqlient's matching rule is the specification's -/
theorem C02_fragmentMatches_is_DoesFragmentTypeApply (lookup : String → Option TypeDef) (obj td : TypeDef) (c : String)
    (wf : WF lookup obj) (h : lookup c = some td) : fragmentMatches obj td = applies obj td := by
  have hn := wf.named c td h
  -- a type named like `obj` is `obj`, so an object; only interfaces are implemented
  have hA : td.kind ≠ .object → (obj.name == td.name) = false := fun hk => by
    rw [beq_eq_false_iff_ne]; intro he
    exact hk (wf.self td (by rw [he, hn]; exact h) ▸ wf.objKind)
  have hB : td.kind ≠ .interface → obj.interfaces.contains td.name = false := fun hk => by
    simpa [hn] using wf.notIface c td h hk
  unfold fragmentMatches applies
  cases hk : td.kind <;> simp only [hk, ne_eq, reduceCtorEq, not_false_eq_true, not_true_eq_false,
    forall_const, false_implies] at hA hB
  · rw [hB, BEq.comm]; simp
  · rw [hA]; simp
  · rw [hA, hB]; simp

/-- A selection guarded by a type condition is kept or dropped alike by both rules. -/
theorem guard_eq (lookup : String → Option TypeDef) (obj : TypeDef) (wf : WF lookup obj) (c : String)
    (x : List String) :
    (match lookup c with | some td => if fragmentMatches obj td then x else [] | none => []) =
    (match lookup c with | some td => if applies obj td then x else [] | none => []) := by
  cases h : lookup c with
  | none => rfl
  | some td => simp only [C02_fragmentMatches_is_DoesFragmentTypeApply lookup obj td c wf h]

mutual
theorem keys_eq (lookup : String → Option TypeDef) (obj : TypeDef) (wf : WF lookup obj) :
    ∀ s : S, genqKeys lookup obj s = specKeys lookup obj s
  | .field k => rfl
  | .inline none sub => by simp only [genqKeys, specKeys, keys_eq_list lookup obj wf sub]
  | .inline (some c) sub => by
    simp only [genqKeys, specKeys, keys_eq_list lookup obj wf sub]; exact guard_eq lookup obj wf c _
theorem keys_eq_list (lookup : String → Option TypeDef) (obj : TypeDef) (wf : WF lookup obj) :
    ∀ l : List S, genqKeysList lookup obj l = specKeysList lookup obj l
  | [] => rfl
  | s :: ss => by simp only [genqKeysList, specKeysList, keys_eq lookup obj wf s, keys_eq_list lookup obj wf ss]
end

/-- **C02_struct_fields_are_collectFields** — for every selection set (inline fragments nested to
    any depth, with and without type conditions) and every object type of a well-formed schema,
    the response keys of the generated struct are exactly those CollectFields produces for that
    runtime type, in the same order: nothing a conformant response can contain for that type is
    without a field, and no field waits for a key that cannot come. -/
theorem C02_struct_fields_are_collectFields (lookup : String → Option TypeDef) (obj : TypeDef) (wf : WF lookup obj)
    (sel : List S) : genqKeysList lookup obj sel = specKeysList lookup obj sel :=
  keys_eq_list lookup obj wf sel

/-- **C02_struct_fields_are_collectFields_with_spreads** — the same with named fragment spreads, to any nesting of
    fragments in fragments: the response keys carried by the struct generated for an object type together with
    every fragment struct embedded in it (at any depth) are exactly the keys CollectFields produces for that
    runtime type — for every fuel (nesting bound), so for every program. -/
theorem C02_struct_fields_are_collectFields_with_spreads (lookup : String → Option TypeDef) (frags : Frags)
    (obj : TypeDef) (wf : WF lookup obj) :
    ∀ (fuel : Nat) (s : S2), genqKeys2 lookup frags obj fuel s = specKeys2 lookup frags obj fuel s := by
  intro fuel
  induction fuel with
  | zero => intro s; rfl
  | succ fuel ih =>
    intro s
    rcases s with k | ⟨_ | c, sub⟩ | n
    · rfl
    · simp only [genqKeys2, specKeys2, funext ih]
    · simp only [genqKeys2, specKeys2, funext ih]; exact guard_eq lookup obj wf c _
    · simp only [genqKeys2, specKeys2, funext ih]
      cases frags n with
      | none => rfl
      | some p => exact guard_eq lookup obj wf p.1 _

/-- the defect a nested fragment matched against the ENCLOSING FRAGMENT's type (instead of the
    type the struct is generated for) causes: `... on Content { ... on Video { duration } }` in a
    struct for Video loses `duration` — witness that the `containing` argument matters -/
theorem C02_nested_condition_witness :
    let video : TypeDef := ⟨"Video", .object, ["Content"], []⟩
    let content : TypeDef := ⟨"Content", .interface, [], []⟩
    let lookup : String → Option TypeDef := fun n => if n = "Video" then some video else if n = "Content" then some content else none
    specKeysList lookup video [.field "id", .inline (some "Content") [.field "name", .inline (some "Video") [.field "duration"]]]
      = ["id", "name", "duration"] ∧
    fragmentMatches content video = false := by eval_decide

end Genq.Collect

/-! ### faithfulness of the generated decoder, on its model (Model/Codec.lean) -/
namespace Genq.Codec
open Genq.Types (J)

/-- **C02_every_carrier_decodes_its_key** — decode one JSON object `o` into a struct with any nesting of embedded
    fragment structs.  Then every carrier of a response key — the struct's own field and the field of every
    embedded fragment (at any depth) that selects the key — holds exactly `fieldDec t (lookup o key)`: the
    decoding, by that field's own type, of the value the object has for that key (`e` ranges over all fields of the
    closure with what MarshalJSON would write for them, so the statement is about the stored values).  Nothing is
    dropped, nothing is taken from another key — up to encoding/json's case-insensitive `lookup`, which is where
    known finding F-02t lives (`C02_fold_twin_witness`). -/
theorem C02_every_carrier_decodes_its_key (fs : Flds) (o : List (String × J)) (vs : List Val) (d : Nat)
    (h : decFields fs o = .ok vs) :
    ∀ e ∈ encAll fs vs d, ∃ t v, (e.2.1, t) ∈ closureFields fs ∧ fieldDec t (lookup o e.2.1) = .ok v ∧ e.2.2 = fieldEnc t v :=
  faithfulFields fs o vs d h

/-- with exact keys only (no key of the object differs from `n` merely in letter case) `lookup` is the last
    value given for `n`: the case the property's naming rule speaks about -/
theorem C02_lookup_exact (o : List (String × J)) (n : String) (h : ∀ kv ∈ o, keyEq kv.1 n = true → kv.1 = n) :
    lookup o n = (o.filter (fun kv => kv.1 == n)).getLast?.map (·.2) := by
  rw [lookup_eq, List.filter_congr fun kv hkv => Bool.eq_iff_iff.2
    ⟨fun hk => beq_iff_eq.2 (h kv hkv hk), fun he => beq_iff_eq.1 he ▸ keyEq_self n⟩]

/-- **C02_fold_twin_witness** (known finding F-02t; the same history is replayed on the compiled code by
    corpus/C02/f02t-…): `user { ...A userID }` with `fragment A on User { userId }` and the response
    `{"userId":"a","userID":"b"}` — the fragment's UserId ends up with "b". -/
theorem C02_fold_twin_witness :
    dec (.struct (.cons "A" true (.struct (.cons "userId" false (.leaf .str) .nil)) (.cons "userID" false (.leaf .str) .nil)))
      (.obj [("userId", .str "a"), ("userID", .str "b")]) = .ok (.struct [.struct [.leaf (.str "b")], .leaf (.str "b")]) := by rfl

-- non-vacuity: a struct with an embedded fragment sharing `id` decodes, and both carriers hold "u1"
example : decFields (.cons "id" false (.leaf .str) (.cons "F" true (.struct (.cons "id" false (.leaf .str) .nil)) .nil))
    [("id", .str "u1")] = .ok [.leaf (.str "u1"), .struct [.leaf (.str "u1")]] := rfl

end Genq.Codec

namespace Genq
/-- **C02_codec_template_tie** — the templates (and FlattenedFields) extracted from /repo on this run are the ones
    the Codec model was written from: an edit of the generated (un)marshaling code breaks this equality even when no
    sampled response behaves differently. -/
theorem C02_codec_template_tie :
    Extracted.unmarshalTmpl = CodecSkel.unmarshalTmpl ∧
    Extracted.unmarshalHelperTmpl = CodecSkel.unmarshalHelperTmpl ∧
    Extracted.flattenedFieldsSkeleton = CodecSkel.flattenedFieldsSkeleton := ⟨rfl, rfl, rfl⟩
end Genq

namespace Genq

/-- **C02_fragment_matches_tie** — fragmentMatches / possibleObjectTypes, as in /repo now (regenerated on every run), equal to the copy the model was written from -/
theorem C02_fragment_matches_tie : Extracted.convertTypeSkeleton = ConvSkel.convertTypeSkeleton := rfl

end Genq
