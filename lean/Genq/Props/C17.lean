/-
C17 — where and how operations are written does not change the generated code.
-/
import Genq.Proofs.Eval
import Genq.Model.Files
import Genq.Model.GenSkel
import Genq.Extracted.Gen
import Genq.Proofs.Lines
import Genq.Model.ConvSkel
import Genq.Extracted.Conv
namespace Genq.Files

/-- **C17_collect_perm** — enumerating the same files in another order gives the validator and
    the generator the same definitions (a permutation of the merged document). -/
theorem C17_collect_perm {D} (files files' : List (File D)) (h : files.Perm files') :
    (merged files).Perm (merged files') :=
  List.Perm.flatMap_right defsOfFile h

/-- **C17_split_graphql** — splitting a .graphql file into two files changes nothing in the
    merged document when the two halves are enumerated next to each other -/
theorem C17_split_graphql {D} (n1 n2 n : Str) (d1 d2 : List D) (rest : List (File D)) :
    merged (⟨n1, .graphql, d1, []⟩ :: ⟨n2, .graphql, d2, []⟩ :: rest) = merged (⟨n, .graphql, d1 ++ d2, []⟩ :: rest) := by
  simp [merged, defsOfFile, List.flatMap_cons, List.append_assoc]

/-- **C17_literal_equals_file** — a `# @genqlient` string literal in a Go file contributes
    exactly what a .graphql file with the same text contributes -/
theorem C17_literal_equals_file {D} (n g : Str) (value : Str) (ds : List D) (hsel : selected value = true)
    (rest : List (File D)) :
    merged (⟨g, .go, [], [⟨value, ds⟩]⟩ :: rest) = merged (⟨n, .graphql, ds, []⟩ :: rest) := by
  simp [merged, defsOfFile, List.flatMap_cons, hsel]

/-- literals that do not start with the marker contribute nothing (ordinary strings of the Go
    file are not mistaken for operations) -/
theorem C17_unselected_literal_ignored {D} (g : Str) (value : Str) (ds : List D) (hsel : selected value = false)
    (rest : List (File D)) :
    merged (⟨g, .go, [], [⟨value, ds⟩]⟩ :: rest) = merged rest := by
  simp [merged, defsOfFile, List.flatMap_cons, hsel]

theorem scanUp_eq : ∀ l : List Str, scanUp l = l.takeWhile isCommentLine
  | [] => rfl
  | _ :: l => by rw [scanUp, List.takeWhile_cons, scanUp_eq l]

/-- **C17_comment_scan_local** — the comment block (and so the @genqlient directive) found for a
    node depends only on the contiguous comment lines directly above it, not on what precedes
    them in whatever file or literal the node sits -/
theorem C17_comment_scan_local (block : List Str) (stop : Str) (above above' : List Str)
    (hb : ∀ l ∈ block, isCommentLine l = true) (hs : isCommentLine stop = false) :
    scanUp (block ++ stop :: above) = block ∧ scanUp (block ++ stop :: above') = block := by
  have key (tail : List Str) : scanUp (block ++ stop :: tail) = block := by
    rw [scanUp_eq, List.takeWhile_append_of_pos hb, List.takeWhile_cons_of_neg (by simp [hs]), List.append_nil]
  exact ⟨key above, key above'⟩

/-- The full statement (generated declarations equal up to `sourceLocation` under every layout)
    additionally needs that conversion does not depend on the order of operations; that part is
    decided on every run by generating each program under 8 layouts and comparing bytes. -/
def C17_layout_invariant_full : Prop :=
  ∀ {D Out : Type} (gen : List D → Out) (files files' : List (File D)),
    (merged files).Perm (merged files') → gen (merged files) = gen (merged files')

-- non-vacuity
example : scanUp ["  # @genqlient(pointer: true)".toList, "# doc".toList, "query A {".toList, "# other".toList] =
    ["  # @genqlient(pointer: true)".toList, "# doc".toList] := by eval_decide

end Genq.Files

namespace Genq
/-- **C17_expandFilenames_tie** — which files are read (glob expansion, de-duplication by full path, sorting) is the
    function the layout theorems assume: the skeleton of expandFilenames extracted from /repo on this run equals the
    committed one. -/
theorem C17_expandFilenames_tie : Extracted.expandFilenamesSkeleton = GenSkel.expandFilenamesSkeleton := rfl
end Genq

/-! ### which comment lines stand above a node does not depend on the file's line-ending convention -/
namespace Genq.Lines

/-- **C17_lines_are_the_lexers_lines** — the line slice the comment scan uses is, for every source text, exactly
    the lexer's division into lines: line k of the slice is the text of the lexer's line k -/
theorem C17_lines_are_the_lexers_lines (s : Str) : linesFixed s = lexLines s := linesFixed_eq_lexLines s

/-- **C17_line_ending_convention_irrelevant** — the same lines written with "\n", "\r\n" or bare "\r" line ends
    give the comment scan the same line slice (namely those lines), so the same comments and @genqlient
    directives are found above every node -/
theorem C17_line_ending_convention_irrelevant (e1 e2 : Ending) (ls : List Str) (hne : ls ≠ [])
    (hc : ∀ l ∈ ls, clean l) :
    linesFixed (joinLines e1 ls) = ls ∧ linesFixed (joinLines e1 ls) = linesFixed (joinLines e2 ls) := by
  obtain ⟨l, ls, rfl⟩ := List.exists_cons_of_ne_nil hne
  have key (e : Ending) : linesFixed (joinLines e (l :: ls)) = l :: ls :=
    (linesFixed_eq_lexLines _).trans (lexLines_joinLines e l ls hc)
  exact ⟨key e1, (key e1).trans (key e2).symm⟩

/-- before fix fa11825 this failed for bare "\r" (witness): the directive line was not a line of its own -/
theorem C17_old_split_cr_witness :
    linesOld (joinLines .cr ["# @genqlient(pointer: true)".toList, "query Q { f }".toList]) ≠
      ["# @genqlient(pointer: true)".toList, "query Q { f }".toList] ∧
    linesFixed (joinLines .cr ["# @genqlient(pointer: true)".toList, "query Q { f }".toList]) =
      ["# @genqlient(pointer: true)".toList, "query Q { f }".toList] := by eval_decide

theorem C17_parsePrecedingComment_tie :
    Extracted.parsePrecedingCommentSkeleton = GenSkel.parsePrecedingCommentSkeleton := rfl

-- non-vacuity of C17_line_ending_convention_irrelevant
example : clean "query Q { f }".toList := by
  rw [clean]
  eval_decide

end Genq.Lines

namespace Genq

/-- **C17_parse_tie** — getAndValidateQueries / getQueries / getQueriesFromString / getQueriesFromGo, as in /repo now (regenerated on every run), equal to the copy the model was written from -/
theorem C17_parse_tie : Extracted.parseSkeleton = ConvSkel.parseSkeleton := rfl

end Genq
