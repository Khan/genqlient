/-
C08 — generation is a deterministic function of the config and the files it names.
-/
import Genq.Model.Pipeline
import Genq.Model.GenSkel
import Genq.Extracted.Gen
import Genq.Model.ConvSkel
import Genq.Extracted.Conv
namespace Genq.Pipeline

theorem le_trans' (a b c : Nat) : decide (a ≤ b) = true → decide (b ≤ c) = true → decide (a ≤ c) = true := by
  simp only [decide_eq_true_eq]; exact Nat.le_trans

theorem le_total' (a b : Nat) : (decide (a ≤ b) || decide (b ≤ a)) = true := by
  simp only [Bool.or_eq_true, decide_eq_true_eq]; exact Nat.le_total a b

theorem sort_perm_eq (a b : List Nat) (h : a.Perm b) :
    a.mergeSort (fun x y => decide (x ≤ y)) = b.mergeSort (fun x y => decide (x ≤ y)) :=
  -- two sorted lists with the same elements are equal
  List.Perm.eq_of_pairwise (le := fun x y => decide (x ≤ y) = true)
    (fun _ _ _ _ h1 h2 => Nat.le_antisymm (of_decide_eq_true h1) (of_decide_eq_true h2))
    (List.pairwise_mergeSort le_trans' le_total' a) (List.pairwise_mergeSort le_trans' le_total' b)
    ((List.mergeSort_perm a _).trans (h.trans (List.mergeSort_perm b _).symm))

/-- **C08_skeleton_tie** — expandFilenames sorts what it collected from the map, and WriteTypes
    sorts the type-map keys, in the source as extracted on this run. -/
theorem C08_skeleton_tie :
    Extracted.expandFilenamesSkeleton = GenSkel.expandFilenamesSkeleton ∧
    Extracted.writeTypesSkeleton = GenSkel.writeTypesSkeleton := ⟨rfl, rfl⟩

/-- **C08_perm_invariant** — whatever the order in which the file system, the globs or Go's map
    iteration enumerate the schema and operation files, the generator sees the same lists:
    for every downstream function `g` the output is the same. -/
theorem C08_perm_invariant {Out} (g : List FileId → List FileId → Out)
    (s s' o o' : List FileId) (hs : s.Perm s') (ho : o.Perm o') :
    generate true g s o = generate true g s' o' := by
  simp only [generate, expand, if_true]
  rw [sort_perm_eq s s' hs, sort_perm_eq o o' ho]

/-- the lists the generator sees are the enumerated files, each exactly as often (none dropped,
    none invented), in increasing order -/
theorem C08_expand_is_sorted_perm (enumerated : List FileId) :
    (expand true enumerated).Perm enumerated ∧ (expand true enumerated).Pairwise (· ≤ ·) :=
  ⟨List.mergeSort_perm _ _, (List.pairwise_mergeSort le_trans' le_total' enumerated).imp of_decide_eq_true⟩

/-- F-08 on the pinned commit: without the sort two enumerations of the same files give
    different outputs for a downstream function that depends on order (as conversion does) -/
theorem C08_pinned_order_dependence_witness :
    ∃ (g : List FileId → List FileId → List FileId) (o o' : List FileId),
      o.Perm o' ∧ generate false g [] o ≠ generate false g [] o' :=
  ⟨fun _ o => o, [1, 2], [2, 1], by decide, by decide⟩

-- non-vacuity
example : (generate true (fun s o => (s, o)) [3, 1, 2] [9, 4]).1.Perm [3, 1, 2] := (C08_expand_is_sorted_perm _).1
example : generate true (fun s o => (s, o)) [3, 1, 2] [9, 4] = generate true (fun s o => (s, o)) [2, 3, 1] [4, 9] :=
  C08_perm_invariant _ _ _ _ _ (by decide) (by decide)

end Genq.Pipeline

namespace Genq

/-- **C08_imports_tie** — addImportFor / ref, as in /repo now (regenerated on every run), equal to the copy the model was written from -/
theorem C08_imports_tie : Extracted.importsSkeleton = ConvSkel.importsSkeleton := rfl

end Genq
