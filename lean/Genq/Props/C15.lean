/-
C15 — the subscription client obeys the wire protocol and frees its resources under I/O faults.
-/
import Genq.Proofs.WsFrames
namespace Genq.Ws

theorem closeAfterUnsub_isClose {f : Flags} (hf : f.closeAlwaysCleans = true) (rest : List SubId) (acc : CloseAcc)
    (fd ok : Bool) : (closeAfterUnsub f rest acc fd ok).isClose = true := by
  rw [closeAfterUnsub, hf]
  cases ok <;> rfl

/-- a Close call stays a Close call until its final section, and only that section closes anything -/
theorem next_isClose {f : Flags} (hf : f.closeAlwaysCleans = true) {w : World} {b : Bool} {k : Call} {p : Eff × Call}
    (hk : k.isClose = true) (h : next f w b k = some p) :
    (p.2.isClose = true ∧ p.1 ≠ .final) ∨ ∃ acc ok, k = .closeFinal acc ∧ p = (.final, .ret ok) := by
  have hu := closeAfterUnsub_isClose hf
  cases k with
  | subWrite | unsubWrite | unsubMap | ret => cases hk
  | closeIds acc fd => cases b <;> cases h; exact .inl ⟨rfl, nofun⟩
  | closeNext rest acc fd => cases rest <;> cases b <;> cases fd <;> cases h <;> exact .inl ⟨rfl, nofun⟩
  | closeUnsubWrite i rest acc fd =>
    cases b <;> cases h
    · exact .inl ⟨hu rest acc fd false, nofun⟩
    · exact .inl ⟨rfl, nofun⟩
  | closeUnsubMap i rest acc fd =>
    cases b <;> cases h
    rcases unsub_cases w i (closeAfterUnsub f rest acc fd false) (closeAfterUnsub f rest acc fd true)
      with h | h <;> rw [h]
    · exact .inl ⟨hu rest acc fd false, nofun⟩
    · exact .inl ⟨hu rest acc fd true, nofun⟩
  | closeFrameWrite todo acc =>
    rw [next, hf] at h
    cases b <;> cases todo <;> cases h <;> exact .inl ⟨rfl, nofun⟩
  | closeFinal acc => simp only [next] at h; split at h <;> cases h; exact .inr ⟨_, _, rfl, rfl⟩

/-- **C15_close_always_cleans** — under the repaired flags a Close call can only return through
    its final section: every step of a Close call either stays inside Close (whatever write
    failed) or is the final section, which sets isClosing, closes the error channel and closes
    the connection, and only then returns. -/
theorem C15_close_always_cleans (w w' : World) (c : Nat) (b : Bool) (k : Call)
    (hc : w.calls[c]? = some k) (hk : k.isClose = true)
    (hs : stepCall Flags.fixed w c b = some w') :
    (∃ k', w'.calls[c]? = some k' ∧ k'.isClose = true ∧ w'.connCloses = w.connCloses ∧ w'.errChanCloses = w.errChanCloses) ∨
    (∃ acc ok, k = .closeFinal acc ∧ w'.calls[c]? = some (.ret ok) ∧ w'.isClosing = true ∧
       w'.connCloses = w.connCloses + 1 ∧ w'.errChanCloses = w.errChanCloses + 1) := by
  obtain ⟨k0, e, k', hk0, hn, rfl⟩ := stepCall_some hs
  obtain rfl : k0 = k := Option.some.inj (hk0.symm.trans hc)
  rcases next_isClose rfl hk hn with ⟨hk', he⟩ | ⟨acc, ok, rfl, hp⟩
  · exact .inl ⟨k', setCall_apply_get e k' hc, hk', ((e.apply_closeState _ w).resolve_left he).2⟩
  · cases hp
    exact .inr ⟨acc, ok, rfl, setCall_apply_get _ _ hc, rfl, rfl, rfl⟩

/-- **C15_subscribe_failure_cleanup** — a Subscribe whose write fails removes its registration
    and reports the failure. -/
theorem C15_subscribe_failure_cleanup (w w' : World) (c : Nat) (i : SubId) (s : Sub)
    (hc : w.calls[c]? = some (.subWrite i)) (hs : getSub w i = some s)
    (hstep : step Flags.fixed w (.stepFail c) = some w') :
    (∃ s', getSub w' i = some s' ∧ s'.registered = false) ∧ w'.calls[c]? = some (.ret false) := by
  have hn : next Flags.fixed w false (.subWrite i) = some (.unreg i, .ret false) := by simp [next, hs]
  simp only [step, hc] at hstep
  rw [stepCall_eq hc, hn] at hstep
  cases hstep
  refine ⟨⟨{ s with registered := false }, ?_, rfl⟩, setCall_apply_get _ _ hc⟩
  simp only [Eff.apply, hs]
  exact List.getElem?_set_self (List.getElem?_eq_some_iff.1 hs).1

/-- **C15_start_failure_cleanup** — whichever step of Start fails, the connection (if one was
    dialled) is closed and no reader is running; on success exactly connection_init was written. -/
theorem C15_start_failure_cleanup (dialOk initOk : Bool) (reads : List ReadRes) :
    let r := start dialOk initOk reads
    (r.ok = false → r.readerSpawned = false ∧ (r.dialed = true → r.connCloses = 1)) ∧
    (r.ok = true → r.readerSpawned = true ∧ r.connCloses = 0 ∧ r.framesWritten = [.init]) := by
  unfold start
  cases dialOk
  · exact ⟨fun _ => ⟨rfl, nofun⟩, nofun⟩
  cases initOk
  · exact ⟨fun _ => ⟨rfl, fun _ => rfl⟩, nofun⟩
  cases waitAck reads
  · exact ⟨fun _ => ⟨rfl, fun _ => rfl⟩, nofun⟩
  · exact ⟨nofun, fun _ => ⟨rfl, rfl, rfl⟩⟩

/-- F-15a on the pinned commit: the close frame is written before the complete frames -/
theorem C15_pinned_close_frame_first_witness :
    (run Flags.pinned init [.subscribe, .step 0, .close, .step 1, .step 1, .step 1, .step 1]).written
      = [.init, .subscribe 0, .close, .complete 0] := by decide

/-- F-15b on the pinned commit: Close returns after a failed write with the connection and
    the error channel still open -/
theorem C15_pinned_close_leaves_open_witness :
    let w := run Flags.pinned init [.subscribe, .step 0, .close, .stepFail 1]
    w.calls[1]? = some (.ret false) ∧ w.connCloses = 0 ∧ w.errChanCloses = 0 := by decide

/-- on the repaired flags the same history ends with everything released, complete before close -/
theorem C15_fixed_close_under_fault :
    let w := run Flags.fixed init [.subscribe, .step 0, .close, .step 1, .step 1, .stepFail 1, .step 1, .step 1, .step 1]
    w.calls[1]? = some (.ret false) ∧ w.connCloses = 1 ∧ w.errChanCloses = 1 ∧ w.written = [.init, .subscribe 0, .close] := by
  decide

/-- **C15_conversation_shape** — for every event list (any interleaving, any write failures): the
    frames whose write succeeded begin with connection_init, and the subscribe frames handed to
    the connection carry the ids 0, 1, 2, … each exactly once, in order (no id is ever reused,
    also after a failed Subscribe). -/
theorem C15_conversation_shape (order : List SubId) (evs : List Ev) :
    let w := run Flags.fixed { init with closeOrder := order } evs
    (∃ l, w.written = .init :: l) ∧ subIds w.frames = List.range w.subs.length :=
  run_logInv _ evs (init_logInv order)

/-- **C15_written_only_grows** — a frame once written stays written: along any continuation the
    log of successful writes is extended, never rewritten. -/
theorem C15_written_only_grows (w : World) (evs : List Ev) : w.written <+: (run Flags.fixed w evs).written :=
  run_written_prefix w evs

/-- The full protocol statement (every `complete` follows its `subscribe` and is sent once per
    id; nothing follows the close frame) holds only for SEQUENTIAL histories — with Unsubscribe
    racing Close the real client writes two completes — and is decided on every correspondence
    run by the harness's `wsValidConversation` on the frames really written. -/
def C15_valid_conversation_full : Prop :=
  ∀ (order : List SubId) (evs : List Ev),
    let w := run Flags.fixed { init with closeOrder := order } evs
    ∀ i, (w.written.filter (· == .complete i)).length ≤ 1

/-- … and it is FALSE for arbitrary interleavings: Unsubscribe(0) racing Close writes `complete 0`
    twice (an observation about the code, outside the property's sequential quantifier). -/
theorem C15_valid_conversation_full_refuted : ¬ C15_valid_conversation_full := by
  intro h
  have := h [] [.subscribe, .step 0, .unsubscribe 0, .close, .step 2, .step 2, .step 2, .step 1] 0
  revert this
  decide

end Genq.Ws
