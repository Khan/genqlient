/-
C20 — a failed run leaves previously generated files untouched; a successful run writes
exactly the generator's bytes.

The interpreter run on the skeleton refines a two-line functional description (`outcome`, `writes`);
every property below is read off that description.
-/
import Genq.Proofs.Eval
import Genq.Model.Main
import Genq.Extracted.Main
namespace Genq.Main

def loopBody : List Stmt := [.call .mkdirAll, .ifErrReturn, .call .writeFile, .ifErrReturn]

/-- What the write loop does to the file system, and whether it stops with an error. -/
def writes (env : Env) : List (Path × Bytes) → FS → FS × Bool
  | [], fs => (fs, false)
  | (p, b) :: g, fs =>
    if env.mkdirFails p then (fs, true)
    else if env.writeFails p then (fsSet fs p [], true)
    else writes env g (fsSet fs p b)

/-- What a whole run does: the final file system and whether an error is returned. -/
def outcome (env : Env) (fs : FS) : FS × Bool :=
  match env.cfgFails, env.genResult with
  | false, some g => writes env g fs
  | _, _ => (fs, true)

theorem fsGet_fsSet_same {fs : FS} {p : Path} {b : Bytes} : fsGet (fsSet fs p b) p = some b :=
  List.lookup_cons_self

theorem lookup_filter_ne (fs : FS) (p q : Path) (h : q ≠ p) :
    (fs.filter (fun e => e.1 != p)).lookup q = fs.lookup q := by
  induction fs with
  | nil => rfl
  | cons e es ih =>
    obtain ⟨k, v⟩ := e
    rw [List.filter_cons]
    split
    · rw [List.lookup_cons, List.lookup_cons, ih]
    · next hk =>
      -- the entry dropped is under `p`, which is not `q`
      have : (q == k) = false := beq_false_of_ne fun e => hk (bne_iff_ne.2 (e ▸ h))
      rw [List.lookup_cons, this, ih]

theorem fsGet_fsSet_other {fs : FS} {p q : Path} {b : Bytes} (h : q ≠ p) :
    fsGet (fsSet fs p b) q = fsGet fs q := by
  rw [fsGet, fsSet, List.lookup_cons, beq_false_of_ne h, lookup_filter_ne fs p q h]
  rfl

theorem writes_other (env : Env) (q : Path) (g : List (Path × Bytes)) (fs : FS) (h : q ∉ g.map (·.1)) :
    fsGet (writes env g fs).1 q = fsGet fs q := by
  induction g generalizing fs with
  | nil => rfl
  | cons f g ih =>
    obtain ⟨hp, hg⟩ := not_or.1 (mt List.mem_cons.2 h)
    rw [writes]
    split
    · rfl
    split
    · exact fsGet_fsSet_other hp
    · rw [ih _ hg, fsGet_fsSet_other hp]

theorem writes_ok (env : Env) (hf : ∀ p, env.mkdirFails p = false ∧ env.writeFails p = false)
    (g : List (Path × Bytes)) (fs : FS) (hn : (g.map (·.1)).Nodup) :
    (writes env g fs).2 = false ∧ ∀ p b, (p, b) ∈ g → fsGet (writes env g fs).1 p = some b := by
  induction g generalizing fs with
  | nil => exact ⟨rfl, fun _ _ h => nomatch h⟩
  | cons f g ih =>
    obtain ⟨p, b⟩ := f
    obtain ⟨hp, hn⟩ := List.nodup_cons.1 hn
    rw [writes, if_neg (by rw [(hf p).1]; nofun), if_neg (by rw [(hf p).2]; nofun)]
    refine ⟨(ih _ hn).1, fun p' b' hm => ?_⟩
    rcases List.mem_cons.1 hm with h | h
    · cases h; rw [writes_other env p g _ hp, fsGet_fsSet_same]
    · exact (ih _ hn).2 _ _ h

theorem execList_stopped (env : Env) (s : St) (l : List Stmt)
    (h : (s.returned.isSome || s.stuck) = true) : execList env s l = s := by
  cases l <;> simp [execList, h]

theorem execList_cons (env : Env) (s : St) (a : Stmt) (l : List Stmt)
    (hr : s.returned = none) (hs : s.stuck = false) :
    execList env s (a :: l) = execList env (execStmt env s a) l := by
  simp [execList, hr, hs]

theorem execList_append (env : Env) (s : St) (a b : List Stmt) :
    execList env s (a ++ b) = execList env (execList env s a) b := by
  induction a generalizing s with
  | nil => simp [execList]
  | cons x xs ih =>
    by_cases h : (s.returned.isSome || s.stuck) = true
    · rw [List.cons_append, execList_stopped env s _ h, execList_stopped env s _ h, execList_stopped env s _ h]
    · rw [List.cons_append, execList, execList]
      simp only [h, Bool.false_eq_true, if_false]
      exact ih _

theorem rangeLoop_stopped (body : St → St) (g : List (Path × Bytes)) (s : St)
    (h : (s.returned.isSome || s.stuck) = true) : rangeLoop body g s = s := by
  cases g <;> simp [rangeLoop, h]

theorem loopBody_eq (env : Env) (s : St) (p : Path) (b : Bytes)
    (hr : s.returned = none) (hs : s.stuck = false) :
    execList env { s with cur := some (p, b) } loopBody =
      if env.mkdirFails p then { s with cur := some (p, b), err := true, returned := some true }
      else if env.writeFails p then
        { s with cur := some (p, b), err := true, fs := fsSet s.fs p [], returned := some true }
      else { s with cur := some (p, b), err := false, fs := fsSet s.fs p b } := by
  cases hm : env.mkdirFails p
  · cases hw : env.writeFails p <;> simp [loopBody, execList, execStmt, callEff, hr, hs, hm, hw]
  · simp [loopBody, execList, execStmt, callEff, hr, hs, hm]

theorem rangeLoop_writes (env : Env) (g : List (Path × Bytes)) (s : St)
    (hr : s.returned = none) (hs : s.stuck = false) :
    let s' := rangeLoop (fun s' => execList env s' loopBody) g s
    s'.fs = (writes env g s.fs).1 ∧
    s'.returned = (if (writes env g s.fs).2 then some true else none) ∧ s'.stuck = false := by
  induction g generalizing s with
  | nil => exact ⟨rfl, hr, hs⟩
  | cons f g ih =>
    obtain ⟨p, b⟩ := f
    have hc : (s.returned.isSome || s.stuck) = false := by rw [hr, hs]; rfl
    rw [rangeLoop, hc, if_neg Bool.false_ne_true, loopBody_eq env s p b hr hs, writes]
    cases env.mkdirFails p
    · cases env.writeFails p
      · exact ih _ hr hs
      · rw [rangeLoop_stopped _ _ _ rfl]; exact ⟨rfl, rfl, hs⟩
    · rw [rangeLoop_stopped _ _ _ rfl]; exact ⟨rfl, rfl, hs⟩

/-- Both branches of the `if` on the configuration file name load the configuration alike. -/
theorem config_same (env : Env) (s : St) (c : String) :
    execStmt env s (.ifElse c [.call .readConfig, .ifErrReturn] [.call .readConfigDefault, .ifErrReturn]) =
      execList env s [.call .readConfig, .ifErrReturn] := by
  rw [execStmt]; split <;> rfl

theorem run_outcome (env : Env) (fs : FS) :
    (run env fs).fs = (outcome env fs).1 ∧ (run env fs).returned = some (outcome env fs).2 ∧
    (run env fs).stuck = false := by
  have hsk : skeleton = [.ifElse "configFilename != \"\"" [.call .readConfig, .ifErrReturn]
      [.call .readConfigDefault, .ifErrReturn], .call .generate, .ifErrReturn,
      .rangeGenerated loopBody, .retNil] := rfl
  unfold outcome
  rw [run, hsk, execList_cons _ _ _ _ rfl rfl, config_same]
  cases hc : env.cfgFails
  · cases hg : env.genResult with
    | none => simp [execList, execStmt, callEff, hc, hg]
    | some g =>
      -- the state after both loads succeeded
      obtain ⟨h1, h2, h3⟩ := rangeLoop_writes env g { fs := fs, cfgLoaded := true, generated := g } rfl rfl
      cases hw : (writes env g fs).2 <;> simp [execList, execStmt, callEff, hc, hg, h1, h2, h3, hw]
  · simp [execList, execStmt, callEff, hc]

/-- **C20_skeleton_tie** — the statement skeleton extracted from generate/main.go on this run
    is the one the theorems below are about, and the only functions of package generate that
    touch the file system for writing are `initConfig` and `readConfigGenerateAndWrite`. -/
theorem C20_skeleton_tie :
    Extracted.mainSkeleton = skeleton ∧ Extracted.writeEffectFns = writeEffectFns :=
  ⟨rfl, rfl⟩

/-- **C20_fail_no_write** — if configuration loading or generation reports an error, the file
    system is exactly what it was and the error is returned. -/
theorem C20_fail_no_write (env : Env) (fs : FS)
    (h : env.cfgFails = true ∨ (env.cfgFails = false ∧ env.genResult = none)) :
    (run env fs).fs = fs ∧ (run env fs).returned = some true := by
  have ⟨h1, h2, _⟩ := run_outcome env fs
  have : outcome env fs = (fs, true) := by
    rcases h with h | ⟨hc, hg⟩ <;> simp [outcome, *]
  rw [h1, h2, this]; exact ⟨rfl, rfl⟩

/-- **C20_success_exact** — on success (no OS-level fault) every generated file holds exactly
    the generator's bytes and no other path changed. -/
theorem C20_success_exact (env : Env) (fs : FS) (g : List (Path × Bytes))
    (hc : env.cfgFails = false) (hg : env.genResult = some g)
    (hn : (g.map (·.1)).Nodup)
    (hf : ∀ p, env.mkdirFails p = false ∧ env.writeFails p = false) :
    (run env fs).returned = some false ∧
    (∀ p b, (p, b) ∈ g → fsGet (run env fs).fs p = some b) ∧
    (∀ q, q ∉ g.map (·.1) → fsGet (run env fs).fs q = fsGet fs q) := by
  have ⟨h1, h2, _⟩ := run_outcome env fs
  have ⟨w1, w2⟩ := writes_ok env hf g fs hn
  have : outcome env fs = writes env g fs := by simp [outcome, hc, hg]
  rw [h1, h2, this]
  exact ⟨congrArg some w1, w2, fun q => writes_other env q g fs⟩

/-- An OS-level write fault (not a genqlient error) is outside the property; the model still
    returns an error for it. -/
theorem C20_write_fault_reported (env : Env) (fs : FS) (p : Path) (b : Bytes)
    (hc : env.cfgFails = false) (hg : env.genResult = some [(p, b)])
    (hw : env.writeFails p = true) (hm : env.mkdirFails p = false) :
    (run env fs).returned = some true := by
  rw [(run_outcome env fs).2.1]; simp [outcome, writes, hc, hg, hw, hm]

/-- one iteration of the write loop under ANY fault assignment touches at most its own path and never gets stuck -/
theorem body_step_any (env : Env) (s : St) (f : Path × Bytes) (q : Path) (hq : q ≠ f.1)
    (hr : s.returned = none) (hs : s.stuck = false) :
    let s' := execList env { s with cur := some f } loopBody
    fsGet s'.fs q = fsGet s.fs q ∧ s'.stuck = false := by
  obtain ⟨p, b⟩ := f
  simp only [loopBody_eq env s p b hr hs]
  split
  · exact ⟨rfl, hs⟩
  split <;> exact ⟨fsGet_fsSet_other hq, hs⟩

theorem range_any (env : Env) (g : List (Path × Bytes)) (s : St) (q : Path) (hq : q ∉ g.map (·.1))
    (hs : s.stuck = false) :
    fsGet (rangeLoop (fun s' => execList env s' loopBody) g s).fs q = fsGet s.fs q ∧
    (rangeLoop (fun s' => execList env s' loopBody) g s).stuck = false := by
  cases hr : s.returned with
  | some r => rw [rangeLoop_stopped _ _ _ (by rw [hr]; rfl)]; exact ⟨rfl, hs⟩
  | none =>
    have ⟨h1, _, h3⟩ := rangeLoop_writes env g s hr hs
    rw [h1]; exact ⟨writes_other env q g _ hq, h3⟩

/-- **C20_faults_confined** — under EVERY assignment of configuration, generation and OS-level faults, a run only
    ever touches paths the generator named: any other path keeps its bytes, the interpreter never meets a
    statement it cannot run, and the run always returns. -/
theorem C20_faults_confined (env : Env) (fs : FS) (q : Path)
    (hq : ∀ g, env.genResult = some g → q ∉ g.map (·.1)) :
    fsGet (run env fs).fs q = fsGet fs q ∧ (run env fs).stuck = false ∧ (run env fs).returned.isSome = true := by
  have ⟨h1, h2, h3⟩ := run_outcome env fs
  refine ⟨?_, h3, by rw [h2]; rfl⟩
  rw [h1]; unfold outcome
  split
  · exact writes_other env q _ fs (hq _ ‹_›)
  · rfl

-- non-vacuity: a mkdir fault on the second of three files; path 9 is not generated and keeps its bytes
example : fsGet (run ⟨true, false, some [(1, [9]), (2, [5]), (3, [4])], fun p => p == 2, fun _ => false⟩ [(9, [7]), (3, [0])]).fs 9 = some [7] := by eval_decide

-- non-vacuity: a failing and a succeeding environment
example : (run ⟨true, false, none, fun _ => false, fun _ => false⟩ [(1, [7])]).fs = [(1, [7])] := by eval_decide
example : fsGet (run ⟨true, false, some [(1, [9, 9]), (2, [5])], fun _ => false, fun _ => false⟩ [(1, [7, 7, 7])]).fs 1 = some [9, 9] := by eval_decide

end Genq.Main
