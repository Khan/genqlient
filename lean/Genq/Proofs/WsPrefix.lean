/-
C14: what the application received on a channel is always a prefix of the payloads the reader
dispatched to that entry (in order, none twice, none invented).  Invariant by induction over
all event lists.
-/
import Genq.Proofs.WsPrim
namespace Genq.Ws

/-- what must hold of entry i given where the reader is -/
def EntryOK (r : Reader) (i : SubId) (s : Sub) : Prop :=
  match r with
  | .send j p => if i = j then s.nexts = s.delivered ++ [p] else s.nexts = s.delivered
  | .done => s.nexts = s.delivered ∨ ∃ p, s.nexts = s.delivered ++ [p]
  | _ => s.nexts = s.delivered

def Pref (w : World) : Prop := ∀ (i : SubId) (s : Sub), w.subs[i]? = some s → EntryOK w.reader i s

theorem entryOK_idle {r : Reader} {i : SubId} {s : Sub} (hr : r.idle = true) :
    EntryOK r i s ↔ s.nexts = s.delivered := by
  cases r with
  | send _ _ | done => cases hr
  | _ => exact .rfl

theorem entryOK_send_self {i : SubId} {p : Payload} {s : Sub} :
    EntryOK (.send i p) i s ↔ s.nexts = s.delivered ++ [p] := by
  simp [EntryOK]

theorem entryOK_send_ne {i j : SubId} {p : Payload} {s : Sub} (h : j ≠ i) :
    EntryOK (.send i p) j s ↔ s.nexts = s.delivered := by
  simp [EntryOK, h]

theorem entryOK_done {r : Reader} {i : SubId} {s : Sub} (h : EntryOK r i s) : EntryOK .done i s := by
  cases r with
  | send j p =>
    simp only [EntryOK] at h
    split at h
    · exact .inr ⟨p, h⟩
    · exact .inl h
  | done => exact h
  | _ => exact .inl h

def SameData (s s' : Sub) : Prop := s'.delivered = s.delivered ∧ s'.nexts = s.nexts

theorem CtlStep.sameData {f : Flags} {s s' : Sub} (h : CtlStep f s s') : SameData s s' :=
  ⟨h.2.1, h.1⟩

theorem entryOK_sameData {r : Reader} {i : SubId} {s s' : Sub} (hd : SameData s s') (h : EntryOK r i s) :
    EntryOK r i s' := by
  unfold EntryOK at *; rw [hd.1, hd.2]; exact h

/-- every entry of w' is an entry of w with the same payload data, or a fresh empty one -/
def KeepsD (w w' : World) : Prop :=
  ∀ (i : SubId) (s' : Sub), w'.subs[i]? = some s' →
    (∃ s, w.subs[i]? = some s ∧ SameData s s') ∨ (w.subs[i]? = none ∧ s' = {})

theorem KeepsD.of_eq {w w' : World} (h : w'.subs = w.subs) : KeepsD w w' :=
  fun _ s' hs' => .inl ⟨s', h ▸ hs', rfl, rfl⟩

theorem SetRel.keepsD {R : Sub → Sub → Prop} {w w' : World} (hl : SetRel R w.subs w'.subs)
    (hR : ∀ s s', R s s' → SameData s s') : KeepsD w w' := by
  rcases hl with h | ⟨k, s, s', hk, hr, h⟩
  · exact .of_eq h
  · intro i t ht
    rw [h, List.getElem?_set] at ht
    split at ht
    · rename_i hki; subst hki
      rw [if_pos (List.getElem?_eq_some_iff.1 hk).1] at ht
      cases ht
      exact .inl ⟨s, hk, hR s _ hr⟩
    · exact .inl ⟨t, ht, rfl, rfl⟩

theorem KeepsD.append {w w' : World} {ss : List Sub} (h : w'.subs = w.subs ++ ss) (hss : ss = [] ∨ ss = [{}]) :
    KeepsD w w' := by
  intro i s' hs'
  rw [h] at hs'
  rcases Nat.lt_or_ge i w.subs.length with hlt | hge
  · rw [List.getElem?_append_left hlt] at hs'
    exact .inl ⟨s', hs', rfl, rfl⟩
  · rw [List.getElem?_append_right hge] at hs'
    refine .inr ⟨List.getElem?_eq_none hge, ?_⟩
    rcases hss with rfl | rfl
    · cases hs'
    · exact (List.mem_singleton.1 (List.mem_of_getElem? hs'))

/-- the reader only ever delivers to an entry that exists -/
def SendExists (w : World) : Prop := ∀ (i : SubId) (p : Payload), w.reader = .send i p → ∃ s, w.subs[i]? = some s

def PInv (w : World) : Prop := Pref w ∧ SendExists w

/-- the reader stays where it is, the payload data of the entries too, and no entry goes away -/
theorem PInv.same_reader {w w' : World} (h : PInv w) (hk : KeepsD w w') (hlen : w.subs.length ≤ w'.subs.length)
    (hr : w'.reader = w.reader) : PInv w' := by
  refine ⟨fun i s' hs' => ?_, fun i p hp => ?_⟩
  · rw [hr]
    rcases hk i s' hs' with ⟨s, hs, hd⟩ | ⟨hnone, rfl⟩
    · exact entryOK_sameData hd (h.1 i s hs)
    · cases hrd : w.reader with
      | send j p =>
        have : i ≠ j := fun e => by obtain ⟨s, hs⟩ := h.2 j p hrd; rw [← e, hnone] at hs; cases hs
        simp [EntryOK, this]
      | done => exact .inl rfl
      | _ => rfl
  · obtain ⟨s, hs⟩ := h.2 i p (hr ▸ hp)
    exact ⟨_, List.getElem?_eq_getElem (Nat.lt_of_lt_of_le (List.getElem?_eq_some_iff.1 hs).1 hlen)⟩

/-- the reader, not in a delivery, goes on to another such state -/
theorem PInv.idle {w w' : World} (h : PInv w) (hi : w.reader.idle = true) (hk : KeepsD w w')
    (hi' : w'.reader.idle = true) : PInv w' := by
  refine ⟨fun i s' hs' => (entryOK_idle hi').2 ?_, fun i p hp => by rw [hp] at hi'; cases hi'⟩
  rcases hk i s' hs' with ⟨s, hs, hd⟩ | ⟨_, rfl⟩
  · rw [hd.1, hd.2]; exact (entryOK_idle hi).1 (h.1 i s hs)
  · rfl

theorem PInv.done {w w' : World} (h : PInv w) (hs : w'.subs = w.subs) (hr : w'.reader = .done) : PInv w' :=
  ⟨fun i s hs' => hr ▸ entryOK_done (h.1 i s (hs ▸ hs')), fun i p hp => by rw [hr] at hp; cases hp⟩

/-- the reader takes a payload for entry `i`, or hands the one it holds to the application -/
theorem PInv.move {w w' : World} {i : SubId} {s t : Sub} {r : Reader} (h : PInv w) (hg : getSub w i = some s)
    (hw : w' = { setSub w i t with reader := r }) (ht : EntryOK r i t)
    (hother : ∀ j u, j ≠ i → EntryOK w.reader j u → EntryOK r j u) (hr : ∀ j q, r = .send j q → j = i) : PInv w' := by
  subst hw
  have hlt : i < w.subs.length := (List.getElem?_eq_some_iff.1 hg).1
  refine ⟨fun j u hu => ?_, fun j q hq => ?_⟩
  · replace hu : (w.subs.set i t)[j]? = some u := hu
    rw [List.getElem?_set] at hu
    split at hu
    · rename_i hij; subst hij
      cases hu; exact ht
    · rename_i hij
      exact hother j u (Ne.symm hij) (h.1 j u hu)
  · obtain rfl := hr j q hq
    exact ⟨t, by show (w.subs.set j t)[j]? = _; rw [List.getElem?_set_self hlt]⟩

theorem step_pinv {f : Flags} {w w' : World} {e : Ev} (h : PInv w) (hs : step f w e = some w') : PInv w' := by
  cases step_kind hs with
  | spawn k ss l hw hl =>
    subst hw
    exact h.same_reader (.append rfl (hl.imp And.left And.left)) (by simp) rfl
  | call c b _ hc =>
    obtain ⟨_, e, _, _, _, rfl⟩ := stepCall_some hc
    exact h.same_reader ((e.apply_subs f w).keepsD fun _ _ => CtlStep.sameData)
      (Nat.le_of_eq (e.apply_subs_length f w).symm) (e.apply_reader f w)
  | complete k hr hw =>
    subst hw
    exact h.idle (by rw [hr]; rfl) (((Eff.ends k false).apply_subs f w).keepsD fun _ _ => CtlStep.sameData) rfl
  | take k p s hr hg _ hw =>
    have hi : w.reader.idle = true := by rw [hr]; rfl
    have hk : s.nexts = s.delivered := (entryOK_idle hi).1 (h.1 k s hg)
    exact h.move hg hw (entryOK_send_self.2 (congrArg (· ++ [p]) hk))
      (fun j u hj hu => (entryOK_send_ne hj).2 ((entryOK_idle hi).1 hu)) (fun j q hq => (Reader.send.inj hq).1.symm)
  | recv k p s hr hg hw =>
    have hk : s.nexts = s.delivered ++ [p] := entryOK_send_self.1 (hr ▸ h.1 k s hg)
    exact h.move hg hw hk (fun j u hj hu => (entryOK_send_ne hj).1 (hr ▸ hu)) (fun j q hq => nomatch hq)
  | reader hm =>
    have hsubs : w'.subs = w.subs := by rw [hm.eq]
    rcases hm.reader with hr | hr | ⟨hi, hi'⟩
    · exact h.same_reader (.of_eq hsubs) (Nat.le_of_eq (by rw [hsubs])) hr
    · exact h.done hsubs hr
    · exact h.idle hi (.of_eq hsubs) hi'

theorem init_pinv (order : List SubId) : PInv { init with closeOrder := order } :=
  ⟨fun i s hs => by simp [init] at hs, fun i p hp => by simp [init] at hp⟩

theorem run_pinv (f : Flags) (w : World) (evs : List Ev) (h : PInv w) : PInv (run f w evs) :=
  run_invariant step_pinv w evs h

theorem prefix_of_entryOK {r : Reader} {i : SubId} {s : Sub} (h : EntryOK r i s) : s.delivered <+: s.nexts := by
  rcases entryOK_done h with h1 | ⟨p, h1⟩ <;> rw [h1]
  · exact List.prefix_refl _
  · exact List.prefix_append _ _

end Genq.Ws
