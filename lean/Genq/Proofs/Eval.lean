/-
Evaluation of the model on concrete input (test vectors, witnesses of known findings).
-/

/-- Closes a goal that is a closed evaluation of the model, by evaluation in the kernel: the elaborator's own
    evaluator (plain `decide`, `rfl`) needs two to eight times the work on these terms.  `"…".toList` is first
    rewritten to the list of characters (a literal is `String.ofList` of them): evaluated, it would have the kernel
    decode the literal's UTF-8 bytes, which costs more than the test itself.  No axiom comes in beyond those the terms
    of the statement rest on (core's `String` functions rest on the three standard ones). -/
macro "eval_decide" : tactic => `(tactic| ((repeat rw [String.toList_ofList]); decide +kernel))
