/-
The per-entry invariant of the WebSocket model once every close of a data channel is guarded
(`idempotentEnd`): a channel was closed exactly as often as its entry's ended flag says.
-/
import Genq.Proofs.WsPrim
namespace Genq.Ws

def SubOK (s : Sub) : Prop := s.closes = if s.ended then 1 else 0

def SubsOK (subs : List Sub) : Prop := ∀ s ∈ subs, SubOK s

theorem SetRel.subsOK {R : Sub → Sub → Prop} {l l' : List Sub} (hl : SetRel R l l')
    (hR : ∀ s s', R s s' → SubOK s → SubOK s') (h : SubsOK l) : SubsOK l' := by
  rcases hl with rfl | ⟨i, s, s', hs, hr, rfl⟩
  · exact h
  · intro t ht
    rcases List.mem_or_eq_of_mem_set ht with h1 | rfl
    · exact h t h1
    · exact hR s t hr (h s (List.mem_of_getElem? hs))

theorem CtlStep.subOK {f : Flags} {s s' : Sub} (hf : f.idempotentEnd = true) (h : CtlStep f s s') (hs : SubOK s) :
    SubOK s' := by
  unfold SubOK at *
  rcases h.2.2.2 hf with ⟨he, hc⟩ | ⟨he, he', hc⟩
  · rw [he, hc]; exact hs
  · rw [he', hc, hs, he]; rfl

theorem subOK_of_eq {s t : Sub} (h : t.ended = s.ended ∧ t.closes = s.closes) (hs : SubOK s) : SubOK t := by
  unfold SubOK at *; rw [h.1, h.2]; exact hs

theorem step_subsOK {f : Flags} (hf : f.idempotentEnd = true) {w w' : World} {e : Ev} (h : SubsOK w.subs)
    (hs : step f w e = some w') : SubsOK w'.subs := by
  cases step_kind hs with
  | spawn k ss l hw hl =>
    subst hw
    intro s hm
    rcases List.mem_append.1 hm with h1 | h1
    · exact h s h1
    · rcases hl with ⟨rfl, _⟩ | ⟨rfl, _⟩
      · cases h1
      · cases List.mem_singleton.1 h1; rfl
  | call c b _ hc =>
    obtain ⟨_, e, _, _, _, rfl⟩ := stepCall_some hc
    exact (e.apply_subs f w).subsOK (fun _ _ => CtlStep.subOK hf) h
  | complete i _ hw =>
    subst hw
    exact ((Eff.ends i false).apply_subs f w).subsOK (fun _ _ => CtlStep.subOK hf) h
  | take i p s _ hg _ hw | recv i p s _ hg hw =>
    subst hw
    exact SetRel.subsOK (.inr ⟨i, s, _, hg, ⟨rfl, rfl⟩, rfl⟩) (fun _ _ => subOK_of_eq) h
  | reader hm => rw [hm.eq]; exact h

theorem run_subsOK (f : Flags) (hf : f.idempotentEnd = true) (w : World) (evs : List Ev) (h : SubsOK w.subs) :
    SubsOK (run f w evs).subs :=
  run_invariant (P := fun w => SubsOK w.subs) (step_subsOK hf) w evs h

theorem init_subsOK (order : List SubId) : SubsOK ({ init with closeOrder := order } : World).subs :=
  fun _ hs => nomatch hs

end Genq.Ws
