/-
Round trip of the generated (un)marshalers in the model (Model/Codec.lean): for every response type tree without
fold twins and every well-formed value `v` (the shape of the type, canonical leaves, and — for structs with
embedded fragments — one JSON per response key across the struct and its fragments, which is what decoding one
object produces), `dec t (enc t v) = ok v`.

What makes a struct come back: the marshaled object has distinct keys, all from a name set without fold twins, so it
hands each name exactly its entry (`lookup_entry`), and under one-JSON-per-key every field's own entry is in it
(`mem_winners`).  Hence every field reads back what was written for it (`winners_covers`; `head_covers` for the
object the interface helper writes).
-/
import Genq.Proofs.CodecSpec
namespace Genq.Codec

open Genq.Types (J)

theorem decLeaf_canon (k : Leaf) (j : J) (h : CanonLeaf k j) : decLeaf k j = .ok (.leaf j) := by
  revert h
  -- the cases of `CanonLeaf`, in its order: string; an integer token, which is in range and is not "-0", so that it
  -- is kept as it is; float; bool; any and custom, which keep every `j` (null is read by `decLeaf`'s first arm and comes
  -- back as their zero, which is null); a map from an object or from null; the rest
  fun_cases CanonLeaf k j <;> intro h
  · rfl
  · rename_i tok; show (if isIntTok tok then _ else _) = _; rw [if_pos h.1, h.2]; rfl
  · rfl
  · rfl
  · cases j <;> rfl
  · cases j <;> rfl
  · rfl
  · rfl
  · exact h.elim

/-! ### what a marshaled struct lets each of its fields read back -/

mutual
theorem encAll_names : ∀ (fs : Flds) (vs : List Val) (d : Nat) (e : Nat × String × J),
    e ∈ encAll fs vs d → e.2.1 ∈ closureNames fs
  | .nil => fun _ _ _ h => absurd h List.not_mem_nil
  | .cons n emb t rest => fun vs d e h => by
    cases vs with
    | nil => exact absurd h List.not_mem_nil
    | cons v vs =>
      rw [encAll_cons] at h
      rcases List.mem_append.1 h with h | h
      · refine List.mem_append_left _ ?_
        cases emb with
        | true => exact encEmb_names t v (d + 1) e h
        | false => cases List.mem_singleton.1 h; exact List.mem_singleton_self n
      · exact List.mem_append_right _ (encAll_names rest vs d e h)
theorem encEmb_names : ∀ (t : Ty) (v : Val) (d : Nat) (e : Nat × String × J),
    e ∈ encEmb t v d → e.2.1 ∈ embNames t
  | .struct fs => fun v d e h => by
    obtain ⟨ws, rfl, h⟩ := mem_encEmb h
    exact encAll_names fs ws d e h
  | .leaf _ | .ptr _ | .slice _ | .iface _ => fun _ _ _ h => absurd h List.not_mem_nil
end

theorem noFoldTwinsIn_spec (names : List String) (h : noFoldTwinsIn names = true) (a b : String)
    (ha : a ∈ names) (hb : b ∈ names) (hk : keyEq a b = true) : a = b := by
  have := List.all_eq_true.1 (List.all_eq_true.1 h a ha) b hb
  simp only [Bool.or_eq_true, beq_iff_eq, bne_iff_ne, ne_eq] at this
  refine this.elim id fun h1 => ?_
  simp only [keyEq, Bool.or_eq_true, beq_iff_eq] at hk
  exact hk.elim id fun h2 => absurd h2 h1

theorem lookup_entry {o : List (String × J)} {names : List String} (hnd : (o.map (·.1)).Nodup)
    (hk : ∀ kv ∈ o, kv.1 ∈ names) (hf : noFoldTwinsIn names = true) {n : String} {j : J} (hn : n ∈ names)
    (hm : (n, j) ∈ o) : lookup o n = some j :=
  lookup_of_mem o n j hnd (fun kv hkv hke => noFoldTwinsIn_spec names hf kv.1 n (hk kv hkv) hn hke) hm

theorem mem_winners {all : List (Nat × String × J)} (hc : Coherent all) {d : Nat} {n : String} {j : J}
    (h : (d, n, j) ∈ all) : (n, j) ∈ winners all := by
  obtain ⟨j', hj'⟩ := winners_complete h
  obtain ⟨d', hd'⟩ := winners_sound hj'
  cases hc _ hd' _ h rfl
  exact hj'

theorem winners_keys {all : List (Nat × String × J)} {names : List String} (hn : ∀ e ∈ all, e.2.1 ∈ names) :
    ∀ kv ∈ winners all, kv.1 ∈ names := fun _ hkv =>
  (winners_sound hkv).elim fun _ hd => hn _ hd

/-- **the marshaled object covers every field**: under one-JSON-per-key and without fold twins, every field of
    the struct and of its embedded fragments reads back, from the marshaled object, exactly the JSON written for it -/
theorem winners_covers (all : List (Nat × String × J)) (names : List String)
    (hn : ∀ e ∈ all, e.2.1 ∈ names) (hf : noFoldTwinsIn names = true) (hc : Coherent all)
    (d : Nat) (n : String) (j : J) (h : (d, n, j) ∈ all) : lookup (winners all) n = some j :=
  lookup_entry (winners_nodup all) (winners_keys hn) hf (hn _ h) (mem_winners hc h)

/-- the object `o` hands every entry of `l` its JSON under its name -/
def Covers (o : List (String × J)) (l : List (Nat × String × J)) : Prop :=
  ∀ e ∈ l, lookup o e.2.1 = some e.2.2

theorem structCovers (fs : Flds) (vs : List Val) (hf : noFoldTwinsIn ("__typename" :: closureNames fs) = true)
    (hc : Coherent (encAll fs vs 0)) : Covers (winners (encAll fs vs 0)) (encAll fs vs 0) := fun e he =>
  winners_covers _ ("__typename" :: closureNames fs) (fun e he => List.mem_cons_of_mem _ (encAll_names fs vs 0 e he))
    hf hc e.1 e.2.1 e.2.2 he

/-- what `encHead` writes: `__typename` first, then the winners that are not called `__typename`.  Its keys are
    still distinct and without fold twins; if the entries called `__typename` hold `tn`, every field's entry is in it -/
theorem head_covers (all : List (Nat × String × J)) (names : List String) (tn : String)
    (hn : ∀ e ∈ all, e.2.1 ∈ names) (hf : noFoldTwinsIn ("__typename" :: names) = true) (hc : Coherent all)
    (hty : ∀ e ∈ all, e.2.1 = "__typename" → e.2.2 = .str tn) :
    lookup (("__typename", .str tn) :: (winners all).filter (fun kv => kv.1 != "__typename")) "__typename" = some (.str tn) ∧
    Covers (("__typename", .str tn) :: (winners all).filter (fun kv => kv.1 != "__typename")) all := by
  have hnd : ((("__typename", J.str tn) :: (winners all).filter (fun kv => kv.1 != "__typename")).map (·.1)).Nodup :=
    List.nodup_cons.2 ⟨fun hm => by
        obtain ⟨kv, hkv, hk⟩ := List.mem_map.1 hm
        exact bne_iff_ne.1 (List.mem_filter.1 hkv).2 hk,
      (winners_nodup all).sublist (List.filter_sublist.map _)⟩
  have hk : ∀ kv ∈ ("__typename", J.str tn) :: (winners all).filter (fun kv => kv.1 != "__typename"),
      kv.1 ∈ "__typename" :: names := fun kv hkv => by
    rcases List.mem_cons.1 hkv with rfl | hkv
    · exact List.mem_cons_self
    · exact List.mem_cons_of_mem _ (winners_keys hn kv (List.mem_filter.1 hkv).1)
  have hself := lookup_entry hnd hk hf List.mem_cons_self List.mem_cons_self
  refine ⟨hself, fun e he => ?_⟩
  by_cases hm : e.2.1 = "__typename"
  · rw [hm, hty e he hm]; exact hself
  · exact lookup_entry hnd hk hf (List.mem_cons_of_mem _ (hn e he))
      (List.mem_cons_of_mem _ (List.mem_filter.2 ⟨mem_winners hc he, bne_iff_ne.2 hm⟩))

/-! Each case takes what it needs about smaller types as a hypothesis; the mutual recursion at the end only wires
    them together.  A value of the wrong form is not well-formed (`h.elim`). -/

abbrev RTy (t : Ty) : Prop := ∀ w : Val, WF t w → noFoldTwins t = true → dec t (enc t w) = .ok w
abbrev RSp (t : Ty) : Prop := ∀ w : Val, WFSpecial t w → noFoldTwins t = true → decSpecial t (encSpecial t w) = .ok w
abbrev RFs (fs : Flds) : Prop := ∀ (vs : List Val) (d : Nat) (o : List (String × J)),
  WFFields fs vs → noFoldTwinsFs fs = true → Covers o (encAll fs vs d) → decFields fs o = .ok vs
abbrev REmb (t : Ty) : Prop := ∀ (v : Val) (d : Nat) (o : List (String × J)),
  WFEmb t v → noFoldTwins t = true → Covers o (encEmb t v d) → dec t (.obj o) = .ok v
abbrev RIm (impls : Impls) : Prop := ∀ (tn : String) (v : Val), WFImpl impls tn v → noFoldTwinsIs impls = true →
  ∃ o, encImpl impls tn v = .obj o ∧ typenameOf o = .ok tn ∧ decImpl impls tn (.obj o) = .ok (.iface tn v)
abbrev RHd (t : Ty) : Prop := ∀ (tn : String) (v : Val), WFImplHead t tn v → noFoldTwins t = true →
  ∃ o, encHead t tn v = .obj o ∧ typenameOf o = .ok tn ∧ dec t (.obj o) = .ok v

theorem rt_leaf (k : Leaf) : RTy (.leaf k) := fun w h _ => by
  cases w with
  | leaf j => exact decLeaf_canon k j h
  | _ => exact h.elim

theorem rt_struct (fs : Flds) (ihF : RFs fs) : RTy (.struct fs) := fun w h hf => by
  cases w with
  | struct vs =>
    have ⟨hf1, hf2⟩ := Bool.and_eq_true_iff.1 hf
    exact map_ok (ihF vs 0 _ h.1 hf2 (structCovers fs vs hf1 h.2))
  | _ => exact h.elim

theorem rt_ptr (t : Ty) (ih : RTy t) : RTy (.ptr t) := fun w h hf => by
  cases w with
  | nilPtr => rfl
  | ptr w => exact (dec_ptr_nonnull t h.2).trans (map_ok (ih w h.1 hf))
  | _ => exact h.elim

theorem rt_slice (t : Ty) (ih : RTy t) : RTy (.slice t) := fun w h hf => by
  cases w with
  | nilSlice => rfl
  | slice vs => exact map_ok (mapM_ok fun w hw => ih w (h w hw) hf)
  | _ => exact h.elim

theorem rt_iface (impls : Impls) (ihI : RIm impls) : RTy (.iface impls) := fun w h hf => by
  cases w with
  | nilIface => rfl
  | iface tn w =>
    obtain ⟨o, ho, htn, hdec⟩ := ihI tn w h.2 hf
    exact (congrArg (dec (.iface impls)) ho).trans ((dec_iface_obj htn h.1).trans hdec)
  | _ => exact h.elim

theorem rts_slice (t : Ty) (ih : RSp t) : RSp (.slice t) := fun w h hf => by
  cases w with
  | slice vs => exact map_ok (mapM_ok fun w hw => ih w (h w hw) hf)
  | _ => exact h.elim

theorem rts_of {t : Ty} (hs : isSliceTy t = false) (ih : RTy t) : RSp t := fun w h hf => by
  rw [encSpecial_eq_enc hs, decSpecial_eq_dec hs]
  exact ih w (WFSpecial_eq_WF hs w ▸ h) hf

theorem rte_struct (fs : Flds) (ihF : RFs fs) : REmb (.struct fs) := fun v d o h hf hc => by
  cases v with
  | struct ws => exact map_ok (ihF ws d o h (Bool.and_eq_true_iff.1 hf).2 hc)
  | _ => exact h.elim

theorem rth_struct (fs : Flds) (ihF : RFs fs) : RHd (.struct fs) := fun tn v h hf => by
  cases v with
  | struct vs =>
    have ⟨hf1, hf2⟩ := Bool.and_eq_true_iff.1 hf
    have ⟨hl, hc⟩ := head_covers _ _ tn (encAll_names fs vs 0) hf1 h.2.1 h.2.2
    exact ⟨_, rfl, by unfold typenameOf; rw [hl], map_ok (ihF vs 0 _ h.1 hf2 hc)⟩
  | _ => exact h.elim

theorem rti_cons (n : String) (t : Ty) (rest : Impls) (ihH : RHd t) (ihR : RIm rest) : RIm (.cons n t rest) :=
  fun tn v h hf => by
    have ⟨hf1, hf2⟩ := Bool.and_eq_true_iff.1 hf
    rcases h with ⟨rfl, h⟩ | ⟨hn, h⟩
    · obtain ⟨o, ho, htn, hd⟩ := ihH n v h hf1
      exact ⟨o, (encImpl_head ..).trans ho, htn, (decImpl_head ..).trans (map_ok hd)⟩
    · obtain ⟨o, ho, htn, hd⟩ := ihR tn v h hf2
      exact ⟨o, (encImpl_skip hn ..).trans ho, htn, (decImpl_skip hn ..).trans hd⟩

theorem rt_field {t : Ty} (ihS : RSp t) (ihT : RTy t) {v : Val} (h : if special t then WFSpecial t v else WF t v)
    (hf : noFoldTwins t = true) : fieldDec t (some (fieldEnc t v)) = .ok v := by
  unfold fieldDec fieldEnc
  revert h
  cases special t
  · exact fun h => ihT v h hf
  · exact fun h => ihS v h hf

theorem rtf_cons (n : String) (emb : Bool) (t : Ty) (rest : Flds)
    (ihE : REmb t) (ihS : RSp t) (ihT : RTy t) (ihR : RFs rest) : RFs (.cons n emb t rest) := fun vs d o h hf hc => by
  cases vs with
  | nil => exact h.elim
  | cons v vs =>
    have ⟨hf1, hf2⟩ := Bool.and_eq_true_iff.1 hf
    rw [encAll_cons] at hc
    refine decFields_cons_ok.2 ⟨v, vs, ?_, ihR vs d o h.2 hf2 fun e he => hc e (List.mem_append_right _ he), rfl⟩
    have hc : Covers o _ := fun e he => hc e (List.mem_append_left _ he)
    have h := h.1
    revert hc h
    cases emb
    · intro hc h
      exact (congrArg (fieldDec t) (hc _ List.mem_cons_self)).trans (rt_field ihS ihT h hf1)
    · exact fun hc h => ihE v (d + 1) o h hf1 hc

mutual
theorem rt : ∀ t : Ty, RTy t
  | .leaf k => rt_leaf k
  | .struct fs => rt_struct fs (rtFields fs)
  | .ptr t => rt_ptr t (rt t)
  | .slice t => rt_slice t (rt t)
  | .iface impls => rt_iface impls (rtImpl impls)
theorem rtSpecial : ∀ t : Ty, RSp t
  | .slice t => rts_slice t (rtSpecial t)
  | .leaf k => rts_of rfl (rt_leaf k)
  | .struct fs => rts_of rfl (rt_struct fs (rtFields fs))
  | .ptr t => rts_of rfl (rt_ptr t (rt t))
  | .iface impls => rts_of rfl (rt_iface impls (rtImpl impls))
theorem rtEmb : ∀ t : Ty, REmb t
  | .struct fs => rte_struct fs (rtFields fs)
  | .leaf _ | .ptr _ | .slice _ | .iface _ => fun _ _ _ h _ _ => h.elim
theorem rtHead : ∀ t : Ty, RHd t
  | .struct fs => rth_struct fs (rtFields fs)
  | .leaf _ | .ptr _ | .slice _ | .iface _ => fun _ _ h _ => h.elim
theorem rtFields : ∀ fs : Flds, RFs fs
  | .nil => fun vs _ _ h _ _ => by cases vs with | nil => rfl | cons _ _ => exact h.elim
  | .cons n emb t rest => rtf_cons n emb t rest (rtEmb t) (rtSpecial t) (rt t) (rtFields rest)
theorem rtImpl : ∀ impls : Impls, RIm impls
  | .nil => fun _ _ h _ => h.elim
  | .cons n t rest => rti_cons n t rest (rtHead t) (rtImpl rest)
end

end Genq.Codec
