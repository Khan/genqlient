/-
Lemmas for C11: url.QueryUnescape inverts url.QueryEscape, and what it makes of a byte string is a byte string.
-/
import Genq.Model.Http
namespace Genq.Http

theorem unhex_hexDigit : ∀ n, n < 16 → unhex (hexDigit n) = some n := by
  decide

theorem hexDigit_not_special : ∀ n, n < 16 → hexDigit n ≠ 37 ∧ hexDigit n ≠ 43 := by
  decide

theorem allBytes_cons {b : Nat} {s : Bytes} : allBytes (b :: s) = true ↔ b < 256 ∧ allBytes s = true := by
  simp [allBytes, isByte]

theorem unescape_plain (b : Nat) (r : Bytes) (h37 : b ≠ 37) (h43 : b ≠ 43) :
    queryUnescape (b :: r) = (queryUnescape r).map (b :: ·) := by
  -- the equation of the last case asks that `b :: r` meets no earlier pattern: side goals `b = 37 → …` (twice) and
  -- `b = 43 → False`, refuted by `h37`, `h43`
  rw [queryUnescape] <;> intros <;> contradiction

theorem unescape_plus (r : Bytes) :
    queryUnescape (43 :: r) = (queryUnescape r).map (32 :: ·) := by
  rw [queryUnescape]

theorem unescape_pct (h l : Nat) (r : Bytes) (a b : Nat)
    (ha : unhex h = some a) (hb : unhex l = some b) :
    queryUnescape (37 :: h :: l :: r) = (queryUnescape r).map ((a * 16 + b) :: ·) := by
  rw [queryUnescape, ha, hb]
  cases queryUnescape r <;> rfl

theorem unreserved_not_special (b : Nat) (h : unreserved b = true) : b ≠ 37 ∧ b ≠ 43 := by
  constructor <;> rintro rfl <;> exact absurd h (by decide)

theorem unescape_escapeByte (b : Nat) (hb : b < 256) (r : Bytes) :
    queryUnescape (escapeByte b ++ r) = (queryUnescape r).map (b :: ·) := by
  unfold escapeByte
  split
  · next hu => exact unescape_plain b r (unreserved_not_special b hu).1 (unreserved_not_special b hu).2
  · split
    · next hs => rw [beq_iff_eq.1 hs]; exact unescape_plus r
    · exact (unescape_pct _ _ r _ _ (unhex_hexDigit _ (Nat.div_lt_of_lt_mul hb))
        (unhex_hexDigit _ (Nat.mod_lt _ (by decide)))).trans (by rw [Nat.div_add_mod' b 16])

theorem unescape_escape (s : Bytes) (hs : allBytes s = true) :
    queryUnescape (queryEscape s) = some s := by
  induction s with
  | nil => rfl
  | cons b bs ih =>
    have h := allBytes_cons.1 hs
    rw [queryEscape, unescape_escapeByte b h.1, ih h.2]
    rfl

theorem of_ite_some {α : Type} {c : Prop} [Decidable c] {x a : α} {o : Option α}
    (h : (if c then some x else o) = some a) : c ∧ x = a ∨ o = some a := by
  split at h
  · next hc => exact .inl ⟨hc, Option.some.inj h⟩
  · exact .inr h

theorem unhex_lt {c a : Nat} (h : unhex c = some a) : a < 16 := by
  obtain ⟨hc, rfl⟩ | h := of_ite_some h
  · simp only [Bool.and_eq_true, decide_eq_true_eq] at hc; omega
  obtain ⟨hc, rfl⟩ | h := of_ite_some h
  · simp only [Bool.and_eq_true, decide_eq_true_eq] at hc; omega
  obtain ⟨hc, rfl⟩ | h := of_ite_some h
  · simp only [Bool.and_eq_true, decide_eq_true_eq] at hc; omega
  cases h

theorem unescape_bytes {s : Bytes} (hs : allBytes s = true) :
    ∀ {r}, queryUnescape s = some r → allBytes r = true := by
  -- the cases of queryUnescape: the end; "%hl" with two hex digits; "%hl" otherwise; a "%" with less than two
  -- bytes behind it; "+"; any other byte
  fun_induction queryUnescape s with
  | case1 => intro r h; cases h; rfl
  | case2 h l rest a b r hr hb ha ih =>
    intro r' h'; cases h'
    have h3 := allBytes_cons.1 (allBytes_cons.1 (allBytes_cons.1 hs).2).2
    have := unhex_lt ha; have := unhex_lt hb
    exact allBytes_cons.2 ⟨by omega, ih h3.2 hr⟩
  | case3 => intro r h; cases h
  | case4 => intro r h; cases h
  | case5 rest ih =>
    intro r h
    obtain ⟨r', hr', rfl⟩ := Option.map_eq_some_iff.1 h
    exact allBytes_cons.2 ⟨by decide, ih (allBytes_cons.1 hs).2 hr'⟩
  | case6 b rest _ _ _ ih =>
    intro r h
    obtain ⟨r', hr', rfl⟩ := Option.map_eq_some_iff.1 h
    exact allBytes_cons.2 ⟨(allBytes_cons.1 hs).1, ih (allBytes_cons.1 hs).2 hr'⟩

end Genq.Http
