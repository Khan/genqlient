/-
The type map (Model/TypeMap.lean: getType / addType over a name → declaration table) — C09, C01.
`selsMatch` is equality of selections; the three verdicts of `getOut` read off the table; a step keeps every entry and,
when it resolves, leaves the requested declaration under its name; `run_keeps` is the first of these along a run.
-/
import Genq.Model.TypeMap
namespace Genq.TypeMap

mutual
theorem selMatch_iff : ∀ a b : Sel, selMatch a b = true ↔ a = b
  | .field a n s, .field a' n' s' => by
    simp only [selMatch, Bool.and_eq_true, beq_iff_eq, selsMatch_iff s s', Sel.field.injEq]
    constructor
    · rintro ⟨⟨h1, h2⟩, h3⟩; exact ⟨h2, h1, h3⟩
    · rintro ⟨h2, h1, h3⟩; exact ⟨⟨h1, h2⟩, h3⟩
  | .inline c s, .inline c' s' => by
    simp only [selMatch, Bool.and_eq_true, beq_iff_eq, selsMatch_iff s s', Sel.inline.injEq]
  | .spread n, .spread n' => by simp only [selMatch, beq_iff_eq, Sel.spread.injEq]
  | .field .., .inline .. | .field .., .spread _ | .inline .., .field .. | .inline .., .spread _
  | .spread _, .field .. | .spread _, .inline .. => by simp [selMatch]
theorem selsMatch_iff : ∀ a b : List Sel, selsMatch a b = true ↔ a = b
  | [], [] => by simp [selsMatch]
  | x :: xs, y :: ys => by
    simp only [selsMatch, Bool.and_eq_true, selMatch_iff x y, selsMatch_iff xs ys, List.cons.injEq]
  | [], _ :: _ | _ :: _, [] => by simp [selsMatch]
end

theorem compatible_iff (need e : Need) : compatible need e = true ↔ e = need := by
  cases need; cases e
  simp only [compatible, Bool.and_eq_true, beq_iff_eq, selsMatch_iff, Need.mk.injEq]
  exact and_congr_right' eq_comm

/-- getType's verdict read off the table: no entry under the name, the requested declaration, or another one -/
theorem getOut_spec (m : TMap) (n : String) (need : Need) :
    lookup n m = none ∧ getOut m n need = .absent ∨
    lookup n m = some need ∧ getOut m n need = .reuse ∨
    (∃ e, lookup n m = some e ∧ e ≠ need) ∧ getOut m n need = .conflict := by
  unfold getOut
  cases lookup n m with
  | none => exact .inl ⟨rfl, rfl⟩
  | some e =>
    by_cases hc : compatible need e = true
    · exact .inr (.inl ⟨congrArg some ((compatible_iff need e).1 hc), if_pos hc⟩)
    · exact .inr (.inr ⟨⟨e, rfl, fun he => hc ((compatible_iff need e).2 he)⟩, if_neg hc⟩)

-- the three cases exclude one another, so each verdict is equivalent to its condition
theorem getOut_reuse_iff (m : TMap) (n : String) (need : Need) :
    getOut m n need = .reuse ↔ lookup n m = some need := by
  rcases getOut_spec m n need with ⟨hl, hg⟩ | ⟨hl, hg⟩ | ⟨⟨e, hl, hne⟩, hg⟩ <;> simp [*]

theorem getOut_conflict_iff (m : TMap) (n : String) (need : Need) :
    getOut m n need = .conflict ↔ ∃ e, lookup n m = some e ∧ e ≠ need := by
  rcases getOut_spec m n need with ⟨hl, hg⟩ | ⟨hl, hg⟩ | ⟨⟨e, hl, hne⟩, hg⟩ <;> simp [*]

theorem getOut_absent_iff (m : TMap) (n : String) (need : Need) : getOut m n need = .absent ↔ lookup n m = none := by
  rcases getOut_spec m n need with ⟨hl, hg⟩ | ⟨hl, hg⟩ | ⟨⟨e, hl, hne⟩, hg⟩ <;> simp [*]

/-- of getType's three verdicts only `.reuse` resolves, and then the entry is the requested declaration -/
theorem getOut_resolved {m : TMap} {n : String} {need : Need} (h : (getOut m n need).resolved = true) :
    lookup n m = some need := by
  rcases getOut_spec m n need with ⟨_, hg⟩ | ⟨hl, _⟩ | ⟨_, hg⟩
  · rw [hg] at h; cases h
  · exact hl
  · rw [hg] at h; cases h

theorem step_add_absent {m : TMap} {n : String} {need : Need} (h : getOut m n need = .absent) :
    step m (.add n need) = ((n, need) :: m, .inserted) := by
  rw [step, h]

theorem step_add_present {m : TMap} {n : String} {need : Need} (h : getOut m n need ≠ .absent) :
    step m (.add n need) = (m, getOut m n need) := by
  rw [step]
  split
  · contradiction
  · rfl

/-- a declaration consed in front under a name that is free, or already holds it, hides nothing -/
theorem lookup_cons_keeps {m : TMap} {n k : String} {need e : Need}
    (hf : lookup n m = none ∨ lookup n m = some need) (hk : lookup k m = some e) :
    lookup k ((n, need) :: m) = some e := by
  rw [lookup]
  split
  · next heq => subst heq; rw [hk] at hf; rcases hf with hf | hf <;> cases hf <;> rfl
  · exact hk

theorem step_resolved_lookup (m : TMap) (r : Req) (hf : r.fresh m) (h : (step m r).2.resolved = true) :
    lookup r.name (step m r).1 = some r.need := by
  cases r with
  | get n need => exact getOut_resolved h
  | add n need =>
    by_cases hg : getOut m n need = .absent
    · rw [step_add_absent hg]; exact if_pos rfl
    · rw [step_add_present hg] at h ⊢; exact getOut_resolved h
  | write n need => exact if_pos rfl
  | peek n need =>
    rcases hf with hf | hf
    · rw [step, hf] at h; cases h
    · exact hf

theorem step_keeps {m : TMap} {r : Req} {k : String} {e : Need} (hf : r.fresh m) (hk : lookup k m = some e) :
    lookup k (step m r).1 = some e := by
  cases r with
  | get n need => exact hk
  | peek n need => exact hk
  | write n need => exact lookup_cons_keeps hf hk
  | add n need =>
    by_cases hg : getOut m n need = .absent
    · rw [step_add_absent hg]; exact lookup_cons_keeps (.inl ((getOut_absent_iff ..).1 hg)) hk
    · rw [step_add_present hg]; exact hk

theorem run_cons {m m' : TMap} {r : Req} {rs : List Req} (h : run m (r :: rs) = some m') :
    run (step m r).1 rs = some m' := by
  simp only [run] at h
  split at h
  · cases h
  · next heq => rw [heq]; exact h

theorem resolvedReqs_cons (m : TMap) (r : Req) (rs : List Req) :
    resolvedReqs m (r :: rs) =
      (if (step m r).2.resolved then [(r.name, r.need)] else []) ++ resolvedReqs (step m r).1 rs := rfl

theorem run_keeps {ops : List Req} {m m' : TMap} {k : String} {e : Need}
    (hw : WritesFresh m ops) (hr : run m ops = some m') (hk : lookup k m = some e) : lookup k m' = some e := by
  induction ops generalizing m with
  | nil => cases hr; exact hk
  | cons r rs ih => exact ih hw.2 (run_cons hr) (step_keeps hw.1 hk)

end Genq.TypeMap
