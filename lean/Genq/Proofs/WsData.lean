/-
C14, first half: once an entry has ended and the reader is not in the middle of a delivery to it,
nothing more is delivered on its channel.
-/
import Genq.Proofs.WsPrim
namespace Genq.Ws

/-- how one entry may evolve in one step when nothing is delivered to it -/
def SubStep (s s' : Sub) : Prop :=
  s'.delivered = s.delivered ∧ (s.ended = true → s'.ended = true)

theorem CtlStep.subStep {f : Flags} {s s' : Sub} (h : CtlStep f s s') : SubStep s s' :=
  ⟨h.2.1, h.2.2.1⟩

/-- entry i survives from w to w' with its deliveries untouched -/
def Keeps (w w' : World) (i : SubId) : Prop :=
  ∀ s, w.subs[i]? = some s → ∃ s', w'.subs[i]? = some s' ∧ SubStep s s'

theorem Keeps.of_eq {w w' : World} {i : SubId} (h : w'.subs = w.subs) : Keeps w w' i :=
  fun s hs => ⟨s, h ▸ hs, rfl, id⟩

theorem Keeps.trans {a b c : World} {i : SubId} (h1 : Keeps a b i) (h2 : Keeps b c i) : Keeps a c i := by
  intro s hs
  obtain ⟨s', hs', d1, e1⟩ := h1 s hs
  obtain ⟨s'', hs'', d2, e2⟩ := h2 s' hs'
  exact ⟨s'', hs'', d2.trans d1, e2 ∘ e1⟩

theorem Keeps.append {w w' : World} {i : SubId} {ss : List Sub} (h : w'.subs = w.subs ++ ss) : Keeps w w' i := by
  intro s hs
  refine ⟨s, ?_, rfl, id⟩
  rw [h, List.getElem?_append_left (List.getElem?_eq_some_iff.1 hs).1]
  exact hs

/-- replacing entry `k` keeps entry `i` if `k` is another one or the new entry continues the old -/
theorem Keeps.set {w w' : World} {i k : SubId} {s s' : Sub} (hk : w.subs[k]? = some s)
    (h : w'.subs = w.subs.set k s') (hs : k = i → SubStep s s') : Keeps w w' i := by
  intro t ht
  rw [h, List.getElem?_set]
  split
  · rename_i hki; subst hki
    rw [hk] at ht; cases ht
    rw [if_pos (List.getElem?_eq_some_iff.1 hk).1]
    exact ⟨s', rfl, hs rfl⟩
  · exact ⟨t, ht, rfl, id⟩

theorem SetRel.keeps {R : Sub → Sub → Prop} {w w' : World} {i : SubId} (hl : SetRel R w.subs w'.subs)
    (hR : ∀ s s', R s s' → SubStep s s') : Keeps w w' i := by
  rcases hl with h | ⟨k, s, s', hk, hr, h⟩
  · exact .of_eq h
  · exact .set hk h fun _ => hR s s' hr

/-- "entry i has ended and the reader is not in the middle of delivering to it" -/
def Quiet (w : World) (i : SubId) : Prop :=
  (∃ s, w.subs[i]? = some s ∧ s.ended = true) ∧ ∀ p, w.reader ≠ .send i p

theorem Quiet.of_keeps {w w' : World} {i : SubId} (hq : Quiet w i) (hk : Keeps w w' i)
    (hr : ∀ p, w'.reader ≠ .send i p) : Quiet w' i ∧ Keeps w w' i := by
  obtain ⟨⟨s, hs, he⟩, _⟩ := hq
  obtain ⟨s', hs', _, hee⟩ := hk s hs
  exact ⟨⟨⟨s', hs', hee he⟩, hr⟩, hk⟩

theorem step_quiet {f : Flags} {w w' : World} {e : Ev} {i : SubId} (hq : Quiet w i)
    (hs : step f w e = some w') : Quiet w' i ∧ Keeps w w' i := by
  have ⟨⟨s0, hs0, he0⟩, hnr⟩ := hq
  cases step_kind hs with
  | spawn k ss l hw hl => subst hw; exact hq.of_keeps (.append rfl) hnr
  | call c b _ hc =>
    obtain ⟨_, e, _, _, _, rfl⟩ := stepCall_some hc
    exact hq.of_keeps ((e.apply_subs f w).keeps fun _ _ => CtlStep.subStep) (by
      rw [setCall_reader, e.apply_reader]; exact hnr)
  | complete k _ hw =>
    subst hw
    exact hq.of_keeps (((Eff.ends k false).apply_subs f w).keeps fun _ _ => CtlStep.subStep) (fun _ h => nomatch h)
  | take k p s _ hg he hw =>
    -- a payload is taken for a live entry only, and entry `i` has ended
    subst hw
    refine hq.of_keeps (.set hg rfl fun _ => ⟨rfl, id⟩) ?_
    intro q hq'
    obtain ⟨rfl, -⟩ := Reader.send.inj hq'
    rw [show w.subs[k]? = some s from hg] at hs0
    cases hs0; rw [he0] at he; cases he
  | recv k p s hr hg hw =>
    subst hw
    exact hq.of_keeps (.set hg rfl fun hki => absurd hr (hki ▸ hnr p)) (fun _ h => nomatch h)
  | reader hm =>
    refine hq.of_keeps (.of_eq (by rw [hm.eq])) fun p hp => ?_
    rcases hm.reader with h | h | ⟨_, h⟩ <;> rw [hp] at h
    · exact hnr p h.symm
    · cases h
    · cases h

theorem run_quiet {f : Flags} (w : World) (evs : List Ev) (i : SubId) (hq : Quiet w i) :
    Quiet (run f w evs) i ∧ Keeps w (run f w evs) i :=
  run_induction (P := (Quiet · i)) (R := (Keeps · · i)) (fun _ => .of_eq rfl) Keeps.trans step_quiet w evs hq

end Genq.Ws
