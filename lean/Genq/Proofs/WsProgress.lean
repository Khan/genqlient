/-
Progress of the WebSocket client model (C13): under the repaired flags no API call is ever stuck
(the only blocking point of a call is the client mutex in Close's final section, and whenever it
is taken the reader can release it by itself), every action of a call strictly decreases a rank
(no livelock), and the reader reaches its end once the client is closed or the connection lost.
-/
import Genq.Proofs.WsPrim
namespace Genq.Ws

/-- the client mutex is held exactly while the reader is inside handleErr's send; Close's final
    section sets isClosing and closes the connection together -/
structure MuInv (w : World) : Prop where
  mu : w.mu = true ↔ w.reader = .herrSend
  closing : w.isClosing = true → w.connCloses ≥ 1

theorem MuInv.mu_false {w : World} (h : MuInv w) (hr : w.reader ≠ .herrSend) : w.mu = false :=
  Bool.eq_false_iff.2 fun hm => hr (h.mu.1 hm)

theorem MuInv.setCall {w : World} (h : MuInv w) (c : Nat) (k : Call) : MuInv (setCall w c k) :=
  ⟨h.mu, h.closing⟩

theorem Eff.muInv {f : Flags} {w : World} (e : Eff) (h : MuInv w) : MuInv (e.apply f w) := by
  refine ⟨by rw [e.apply_reader, e.apply_mu]; exact h.mu, ?_⟩
  rcases e.apply_closeState f w with rfl | ⟨h1, h2, -⟩
  · exact fun _ => Nat.succ_pos _
  · rw [h1, h2]; exact h.closing

theorem stepCall_muInv {f : Flags} {w w' : World} {c : Nat} {b : Bool} (h : MuInv w)
    (hs : stepCall f w c b = some w') : MuInv w' := by
  obtain ⟨_, e, k', _, _, rfl⟩ := stepCall_some hs
  exact (e.muInv h).setCall c k'

theorem step_muInv {f : Flags} {w w' : World} {e : Ev} (h : MuInv w) (hs : step f w e = some w') : MuInv w' := by
  cases step_kind hs with
  | spawn k ss l hw hl => subst hw; exact ⟨h.mu, h.closing⟩
  | call c b _ hc => exact stepCall_muInv h hc
  | complete _ hr hw | take _ _ _ hr _ _ hw | recv _ _ _ hr _ hw =>
    subst hw
    exact ⟨by simp [h.mu_false (by rw [hr]; nofun)], h.closing⟩
  | reader hm => exact ⟨hm.mu h.mu, by rw [hm.eq]; exact h.closing⟩

theorem run_muInv {f : Flags} (w : World) (evs : List Ev) (h : MuInv w) : MuInv (run f w evs) :=
  run_invariant step_muInv w evs h

theorem init_muInv (order : List SubId) : MuInv { init with closeOrder := order } :=
  ⟨by simp [init], by simp [init]⟩

/-- with its pending connection write (if any) completing, an action of call `c` is enabled unless
    the call has returned or waits for the client mutex in Close's final section -/
theorem stepCall_enabled (w : World) (c : Nat) (k : Call) (hk : w.calls[c]? = some k)
    (hret : ∀ b, k ≠ .ret b) (hmu : w.mu = false ∨ ∀ acc, k ≠ .closeFinal acc) :
    (stepCall Flags.fixed w c true).isSome = true := by
  rw [stepCall_eq hk, Option.isSome_map]
  cases k with
  | ret b => exact absurd rfl (hret b)
  | closeFinal acc =>
    rcases hmu with h | h
    · simp [next, h]
    · exact absurd rfl (h acc)
  | closeNext rest acc fd => cases rest <;> rfl
  | _ => rfl

/-- the reader inside handleErr's send finishes by itself (buffered error channel) and releases the mutex -/
theorem herrSend_releases {f : Flags} (hb : f.errChanBuffered = true) (w : World) (h : w.reader = .herrSend) :
    step f w .rstep = some { w with errQueued := w.errQueued + 1, mu := false, reader := .done } :=
  (rstep_herrSend h).trans (if_pos hb)

/-- `n` = number of subscription entries of the world (bounds the id snapshot Close takes) -/
def Call.rank (n : Nat) : Call → Nat
  | .ret _ => 0
  | .closeFinal _ => 1
  | .closeFrameWrite none _ => 2
  | .closeNext rest _ _ => 3 * rest.length + 3
  | .closeUnsubMap _ rest _ _ => 3 * rest.length + 4
  | .closeUnsubWrite _ rest _ _ => 3 * rest.length + 5
  | .closeIds _ _ => 3 * n + 4
  | .closeFrameWrite (some _) _ => 3 * n + 5
  | .subWrite _ => 1
  | .unsubWrite _ => 2
  | .unsubMap _ => 1

theorem Call.rank_eq_zero {n : Nat} {k : Call} (h : k.rank n = 0) : ∃ b, k = .ret b := by
  cases k with
  | ret b => exact ⟨b, rfl⟩
  | closeFrameWrite todo acc => cases todo <;> cases h
  | _ => cases h

theorem pick_mem (order : List SubId) (x : SubId) (rest : List SubId) : pick order (x :: rest) ∈ x :: rest := by
  unfold pick
  split
  · rename_i i hf
    have := List.find?_some hf
    simpa using this
  · simp

theorem liveIds_length (f : Flags) (w : World) : (liveIds f w).length ≤ w.subs.length := by
  unfold liveIds
  calc _ ≤ (List.range w.subs.length).length := List.length_filter_le _ _
    _ = _ := List.length_range

theorem closeAfterUnsub_rank (f : Flags) (n : Nat) (rest : List SubId) (acc : CloseAcc) (fd ok : Bool) :
    (closeAfterUnsub f rest acc fd ok).rank n ≤ 3 * rest.length + 3 := by
  unfold closeAfterUnsub
  cases ok <;> cases f.closeAlwaysCleans <;> simp [Call.rank]

theorem next_rank {f : Flags} {w : World} {b : Bool} {k : Call} {p : Eff × Call} (h : next f w b k = some p) :
    p.2.rank w.subs.length < k.rank w.subs.length := by
  -- wherever Close goes on after one Unsubscribe, it is below `closeUnsubMap _ rest`, whose rank is `3 * rest.length + 4`
  have hu (rest acc fd ok) : (closeAfterUnsub f rest acc fd ok).rank w.subs.length < 3 * rest.length + 4 :=
    Nat.lt_succ_of_le (closeAfterUnsub_rank f w.subs.length rest acc fd ok)
  cases k with
  | ret _ => cases h
  | closeNext rest acc fd =>
    cases rest with
    | nil => cases b <;> cases fd <;> cases h <;> simp [Call.rank]
    | cons x r =>
      cases b <;> cases h
      have := List.length_erase_of_mem (pick_mem w.closeOrder x r)
      simp only [Call.rank, this, List.length_cons]; omega
  | closeIds acc fd =>
    cases b <;> cases h
    have := liveIds_length f w
    simp only [Call.rank]; omega
  | unsubMap i =>
    cases b <;> cases h
    rcases unsub_cases w i (.ret false) (.ret true) with h | h <;> rw [h] <;> simp [Call.rank]
  | closeUnsubMap i rest acc fd =>
    cases b <;> cases h
    rcases unsub_cases w i (closeAfterUnsub f rest acc fd false) (closeAfterUnsub f rest acc fd true)
      with h | h <;> rw [h]
    · exact hu rest acc fd false
    · exact hu rest acc fd true
  | closeUnsubWrite i rest acc fd =>
    cases b <;> cases h
    · exact Nat.lt_trans (hu rest acc fd false) (by simp [Call.rank])
    · simp [Call.rank]
  | closeFrameWrite todo acc => cases b <;> cases todo <;> cases h <;> cases f.closeAlwaysCleans <;> simp [Call.rank]
  | subWrite i =>
    cases b
    · cases hg : getSub w i <;> simp only [next, hg] at h <;> cases h; simp [Call.rank]
    · cases h; simp [Call.rank]
  | unsubWrite i => cases b <;> cases h <;> simp [Call.rank]
  | closeFinal acc => simp only [next] at h; split at h <;> cases h; simp [Call.rank]

theorem stepCall_other {f : Flags} {w w' : World} {c d : Nat} {b : Bool} (hd : d ≠ c)
    (hs : stepCall f w c b = some w') : w'.calls[d]? = w.calls[d]? := by
  obtain ⟨_, e, k', _, _, rfl⟩ := stepCall_some hs
  rw [setCall_get_ne _ k' hd, e.apply_calls]

theorem stepCall_rank {f : Flags} {w w' : World} {c : Nat} {b : Bool} {k : Call} (hk : w.calls[c]? = some k)
    (hs : stepCall f w c b = some w') :
    ∃ k', w'.calls[c]? = some k' ∧ k'.rank w'.subs.length < k.rank w.subs.length ∧
      ∀ d, d ≠ c → w'.calls[d]? = w.calls[d]? := by
  obtain ⟨k0, e, k', hk0, hn, rfl⟩ := stepCall_some hs
  obtain rfl : k0 = k := Option.some.inj (hk0.symm.trans hk)
  exact ⟨k', setCall_apply_get e k' hk, by rw [setCall_subs, e.apply_subs_length]; exact next_rank hn,
    fun _ hd => stepCall_other hd hs⟩

theorem stepCall_mu_eq {f : Flags} {w w' : World} {c : Nat} {b : Bool}
    (hs : stepCall f w c b = some w') : w'.mu = w.mu := by
  obtain ⟨_, e, _, _, _, rfl⟩ := stepCall_some hs
  exact e.apply_mu f w

theorem step_other_preserves_call {f : Flags} {w w' : World} {e : Ev} {c : Nat} {k : Call}
    (he1 : e ≠ .step c) (he2 : e ≠ .stepFail c) (hk : w.calls[c]? = some k)
    (hs : step f w e = some w') : w'.calls[c]? = some k := by
  cases step_kind hs with
  | spawn k' ss l hw hl =>
    subst hw
    exact (List.getElem?_append_left (List.getElem?_eq_some_iff.1 hk).1).trans hk
  | call d b he hc =>
    have hd : d ≠ c := by rintro rfl; cases b <;> exact absurd he (by assumption)
    exact (stepCall_other (Ne.symm hd) hc).trans hk
  | complete _ _ hw | take _ _ _ _ _ _ hw | recv _ _ _ _ _ hw => subst hw; exact hk
  | reader hm => rw [hm.eq]; exact hk

/-- call `c` scheduled on its own, its connection writes completing; when it waits for the mutex
    the reader (the only other holder) is scheduled instead -/
def soloStep (f : Flags) (w : World) (c : Nat) : World :=
  match stepCall f w c true with
  | some w' => w'
  | none => (step f w .rstep).getD w

def solo (f : Flags) (c : Nat) : Nat → World → World
  | 0, w => w
  | n + 1, w => solo f c n (soloStep f w c)

theorem solo_ret {f : Flags} {w : World} {c : Nat} {b : Bool} (n : Nat) (h : w.calls[c]? = some (.ret b)) :
    (solo f c n w).calls[c]? = some (.ret b) := by
  induction n generalizing w with
  | zero => exact h
  | succ n ih =>
    refine ih (w := soloStep f w c) ?_
    unfold soloStep
    rw [show stepCall f w c true = none by rw [stepCall_eq h]; rfl]
    cases hr : step f w .rstep with
    | none => exact h
    | some w' => exact step_other_preserves_call (e := .rstep) nofun nofun h hr

/-- **every call returns**: scheduled on its own (with the reader allowed to finish its error
    report), a call reaches `ret` within rank + 1 actions, from ANY world satisfying the mutex invariant -/
theorem solo_returns (n : Nat) (w : World) (c : Nat) (k : Call) (hi : MuInv w) (hk : w.calls[c]? = some k)
    (hn : k.rank w.subs.length + (if w.mu then 1 else 0) ≤ n) :
    ∃ b, (solo Flags.fixed c n w).calls[c]? = some (.ret b) := by
  induction n generalizing w k with
  | zero =>
    obtain ⟨b, rfl⟩ := Call.rank_eq_zero (Nat.le_zero.1 (Nat.le_trans (Nat.le_add_right _ _) hn))
    exact ⟨b, hk⟩
  | succ n ih =>
    by_cases hret : ∃ b, k = .ret b
    · obtain ⟨b, rfl⟩ := hret
      exact ⟨b, solo_ret _ hk⟩
    show ∃ b, (solo Flags.fixed c n (soloStep Flags.fixed w c)).calls[c]? = some (.ret b)
    unfold soloStep
    cases hsc : stepCall Flags.fixed w c true with
    | some w' =>
      -- the call's own action: its rank falls, the mutex stays as it is
      obtain ⟨k', hk', hlt, -⟩ := stepCall_rank hk hsc
      exact ih w' k' (stepCall_muInv hi hsc) hk' (by rw [stepCall_mu_eq hsc]; omega)
    | none =>
      -- not returned and not enabled: the call waits in `closeFinal` for the mutex, so the reader holds it,
      -- and the reader's action releases it
      have hmu : w.mu = true := by
        cases hm : w.mu with
        | true => rfl
        | false =>
          have := stepCall_enabled w c k hk (fun b hb => hret ⟨b, hb⟩) (.inl hm)
          rw [hsc] at this; cases this
      have hrel := herrSend_releases (f := Flags.fixed) rfl w (hi.mu.1 hmu)
      rw [hmu] at hn
      rw [hrel]
      exact ih _ k (step_muInv hi hrel) hk (Nat.le_of_succ_le_succ hn)

/-- the reader running on its own for `n` actions -/
def rsteps (f : Flags) : Nat → World → World
  | 0, w => w
  | n + 1, w => rsteps f n ((step f w .rstep).getD w)

/- Once reads fail, the reader not holding a payload walks down `top`, `read`, `herr`, `herrSend`, `done`, one
   action each, or goes to `done` at once when it finds the client closing; in `done` nothing moves it. -/

theorem rsteps_done {f : Flags} {w : World} (n : Nat) (h : w.reader = .done) : (rsteps f n w).reader = .done := by
  induction n with
  | zero => exact h
  | succ n ih => rw [rsteps, rstep_done h]; exact ih

theorem rsteps_herrSend {f : Flags} (hb : f.errChanBuffered = true) {w : World} (n : Nat) (h : w.reader = .herrSend) :
    (rsteps f (n + 1) w).reader = .done := by
  rw [rsteps, herrSend_releases hb w h]
  exact rsteps_done n rfl

theorem rsteps_herr {f : Flags} (hb : f.errChanBuffered = true) {w : World} (n : Nat) (h : w.reader = .herr)
    (hmu : w.mu = false) : (rsteps f (n + 2) w).reader = .done := by
  rw [rsteps, rstep_herr h, hmu]
  cases w.isClosing
  · exact rsteps_herrSend hb n rfl
  · exact rsteps_done _ rfl

theorem rsteps_read {f : Flags} (hb : f.errChanBuffered = true) {w : World} (n : Nat) (h : w.reader = .read)
    (hmu : w.mu = false) (hc : w.connCloses ≥ 1) : (rsteps f (n + 3) w).reader = .done := by
  rw [rsteps, rstep_read h, if_pos hc]
  exact rsteps_herr hb n rfl hmu

theorem rsteps_top {f : Flags} (hb : f.errChanBuffered = true) {w : World} (n : Nat) (h : w.reader = .top)
    (hmu : w.mu = false) (hc : w.connCloses ≥ 1) : (rsteps f (n + 4) w).reader = .done := by
  rw [rsteps, rstep_top h]
  cases w.isClosing
  · exact rsteps_read hb n rfl hmu hc
  · exact rsteps_done _ rfl

theorem reader_ends (w : World) (h : MuInv w)
    (hc : w.connCloses ≥ 1 ∨ w.reader = .herr ∨ w.reader = .herrSend ∨ w.reader = .done)
    (hsend : ∀ i p, w.reader ≠ .send i p) : (rsteps Flags.fixed 4 w).reader = .done := by
  cases hr : w.reader with
  | send i p => exact absurd hr (hsend i p)
  | done => exact rsteps_done 4 hr
  | herrSend => exact rsteps_herrSend rfl 3 hr
  | herr => exact rsteps_herr rfl 2 hr (h.mu_false (by simp [hr]))
  | read => exact rsteps_read rfl 1 hr (h.mu_false (by simp [hr])) (by simpa [hr] using hc)
  | top => exact rsteps_top rfl 0 hr (h.mu_false (by simp [hr])) (by simpa [hr] using hc)

end Genq.Ws
