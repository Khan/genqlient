/-
The predicates the codec theorems are stated with (C02, C06, C19):
  * `WF`      a value of the shape `dec` produces: canonical leaves (`CanonLeaf`), and one JSON per response key
              across a struct and its embedded fragments (`Coherent`);
  * `WFn`     the same, but a list handled through json.RawMessage may be nil, and `norm`, which makes it empty:
              what `null` for the enclosing struct leaves behind, and what the marshaler then writes (F-02);
  * `TyOK`    the type trees genqlient generates: one Go type per response key of a struct closure (`SameKeyTy`),
              and `__typename` a string in every implementation.
Each is a mutual family over `Ty` / `Flds` / `Impls`: `WF` and `WFn` have a member for each of the six positions a type
can stand in (see the legend in CodecBasic.lean), `TyOK` for t, f, i, h.
-/
import Genq.Proofs.CodecBasic
namespace Genq.Codec

open Genq.Types (J)

/-- one JSON per response key among all the fields of a struct and of its embedded fragments -/
def Coherent (l : List (Nat × String × J)) : Prop :=
  ∀ a ∈ l, ∀ b ∈ l, a.2.1 = b.2.1 → a.2.2 = b.2.2

/-- a leaf as `decLeaf` leaves it -/
def CanonLeaf : Leaf → J → Prop
  | .str, .str _ => True
  | .int, .num tok => isIntTok tok = true ∧ (tok == "-0") = false
  | .float, .num _ => True
  | .bool, .bool _ => True
  | .any, _ => True
  | .custom, _ => True
  | .map, .obj _ => True
  | .map, .null => True
  | _, _ => False

mutual
/-- values of the shape `dec` produces -/
def WF : Ty → Val → Prop
  | .leaf k, .leaf j => CanonLeaf k j
  | .struct fs, .struct vs => WFFields fs vs ∧ Coherent (encAll fs vs 0)
  | .ptr _, .nilPtr => True
  | .ptr t, .ptr v => WF t v ∧ isNull (enc t v) = false
  | .slice _, .nilSlice => True
  | .slice t, .slice vs => ∀ v ∈ vs, WF t v
  | .iface _, .nilIface => True
  | .iface impls, .iface tn v => tn ≠ "" ∧ WFImpl impls tn v
  | _, _ => False
def WFImpl : Impls → String → Val → Prop
  | .nil, _, _ => False
  | .cons n t rest, tn, v => (n = tn ∧ WFImplHead t tn v) ∨ (n ≠ tn ∧ WFImpl rest tn v)
/-- the implementation struct chosen by the switch: well-formed fields, one JSON per key, and its own
    `__typename` field (if it has one) holds the name it was dispatched on -/
def WFImplHead : Ty → String → Val → Prop
  | .struct fs, tn, .struct vs =>
    WFFields fs vs ∧ Coherent (encAll fs vs 0) ∧ (∀ e ∈ encAll fs vs 0, e.2.1 = "__typename" → e.2.2 = .str tn)
  | _, _, _ => False
def WFFields : Flds → List Val → Prop
  | .nil, [] => True
  | .cons _ emb t rest, v :: vs =>
    (if emb then WFEmb t v
     else if special t then WFSpecial t v
     else WF t v) ∧ WFFields rest vs
  | _, _ => False
def WFEmb : Ty → Val → Prop
  | .struct fs, .struct ws => WFFields fs ws
  | _, _ => False
/-- fields handled through json.RawMessage: lists are never nil -/
def WFSpecial : Ty → Val → Prop
  | .slice t, .slice vs => ∀ v ∈ vs, WFSpecial t v
  | .ptr _, .nilPtr => True
  | .ptr t, .ptr v => WF t v ∧ isNull (enc t v) = false
  | .iface _, .nilIface => True
  | .iface impls, .iface tn v => tn ≠ "" ∧ WFImpl impls tn v
  | .leaf k, .leaf j => CanonLeaf k j
  | .struct fs, .struct vs => WFFields fs vs ∧ Coherent (encAll fs vs 0)
  | _, _ => False
end

mutual
/-- as `WF`, but a list handled through json.RawMessage may be nil (what `null` for the enclosing struct leaves behind: F-02) -/
def WFn : Ty → Val → Prop
  | .leaf k, .leaf j => CanonLeaf k j
  | .struct fs, .struct vs => WFnFields fs vs ∧ Coherent (encAll fs vs 0)
  | .ptr _, .nilPtr => True
  | .ptr t, .ptr v => WFn t v ∧ isNull (enc t v) = false
  | .slice _, .nilSlice => True
  | .slice t, .slice vs => ∀ v ∈ vs, WFn t v
  | .iface _, .nilIface => True
  | .iface impls, .iface tn v => tn ≠ "" ∧ WFnImpl impls tn v
  | _, _ => False
def WFnImpl : Impls → String → Val → Prop
  | .nil, _, _ => False
  | .cons n t rest, tn, v => (n = tn ∧ WFnImplHead t tn v) ∨ (n ≠ tn ∧ WFnImpl rest tn v)
def WFnImplHead : Ty → String → Val → Prop
  | .struct fs, tn, .struct vs =>
    WFnFields fs vs ∧ Coherent (encAll fs vs 0) ∧ (∀ e ∈ encAll fs vs 0, e.2.1 = "__typename" → e.2.2 = .str tn)
  | _, _, _ => False
def WFnFields : Flds → List Val → Prop
  | .nil, [] => True
  | .cons _ emb t rest, v :: vs =>
    (if emb then WFnEmb t v
     else if special t then WFnSpecial t v
     else WFn t v) ∧ WFnFields rest vs
  | _, _ => False
def WFnEmb : Ty → Val → Prop
  | .struct fs, .struct ws => WFnFields fs ws
  | _, _ => False
def WFnSpecial : Ty → Val → Prop
  | .slice _, .nilSlice => True
  | .slice t, .slice vs => ∀ v ∈ vs, WFnSpecial t v
  | .ptr _, .nilPtr => True
  | .ptr t, .ptr v => WFn t v ∧ isNull (enc t v) = false
  | .iface _, .nilIface => True
  | .iface impls, .iface tn v => tn ≠ "" ∧ WFnImpl impls tn v
  | .leaf k, .leaf j => CanonLeaf k j
  | .struct fs, .struct vs => WFnFields fs vs ∧ Coherent (encAll fs vs 0)
  | _, _ => False
end

mutual
/-- nil lists handled through json.RawMessage become empty; nothing else changes -/
def norm : Ty → Val → Val
  | .struct fs, .struct vs => .struct (normFields fs vs)
  | .ptr t, .ptr v => .ptr (norm t v)
  | .slice t, .slice vs => .slice (vs.map (fun v => norm t v))
  | .iface impls, .iface tn v => .iface tn (normImpl impls tn v)
  | _, v => v
def normImpl : Impls → String → Val → Val
  | .nil, _, v => v
  | .cons n t rest, tn, v => if n == tn then norm t v else normImpl rest tn v
def normFields : Flds → List Val → List Val
  | .cons _ emb t rest, v :: vs =>
    (if emb then norm t v else if special t then normSpecial t v else norm t v) :: normFields rest vs
  | _, vs => vs
def normSpecial : Ty → Val → Val
  | .slice _, .nilSlice => .slice []
  | .slice t, .slice vs => .slice (vs.map (fun v => normSpecial t v))
  | .ptr t, .ptr v => .ptr (norm t v)
  | .iface impls, .iface tn v => .iface tn (normImpl impls tn v)
  | .struct fs, .struct vs => .struct (normFields fs vs)
  | _, v => v
end

/-! ### off lists, a field handled through json.RawMessage is an ordinary one -/

theorem WFSpecial_eq_WF {t : Ty} (h : isSliceTy t = false) (v : Val) : WFSpecial t v = WF t v := by
  cases t with
  | slice _ => cases h
  | _ => cases v <;> exact rfl

theorem WFnSpecial_eq_WFn {t : Ty} (h : isSliceTy t = false) (v : Val) : WFnSpecial t v = WFn t v := by
  cases t with
  | slice _ => cases h
  | _ => cases v <;> exact rfl

theorem normSpecial_eq_norm {t : Ty} (h : isSliceTy t = false) (v : Val) : normSpecial t v = norm t v := by
  cases t with
  | slice _ => cases h
  | _ => cases v <;> exact rfl

theorem normImpl_head (n : String) (t : Ty) (rest : Impls) (v : Val) : normImpl (.cons n t rest) n v = norm t v :=
  if_pos (beq_self_eq_true n)

theorem normImpl_skip {n tn : String} (h : n ≠ tn) (t : Ty) (rest : Impls) (v : Val) :
    normImpl (.cons n t rest) tn v = normImpl rest tn v :=
  if_neg (mt beq_iff_eq.1 h)

/-- one response key, one Go type, among a struct and its embedded fragments (excluded point: F-06k) -/
def SameKeyTy (l : List (String × Ty)) : Prop := ∀ a ∈ l, ∀ b ∈ l, a.1 = b.1 → a.2 = b.2
/-- an implementation's `__typename` field is a Go string (what genqlient generates) -/
def TypenameIsStr (l : List (String × Ty)) : Prop := ∀ a ∈ l, a.1 = "__typename" → a.2 = .leaf .str

mutual
def TyOK : Ty → Prop
  | .leaf _ => True
  | .struct fs => FldsOK fs ∧ SameKeyTy (closureFields fs)
  | .ptr t => TyOK t
  | .slice t => TyOK t
  | .iface impls => ImplsOK impls
def FldsOK : Flds → Prop
  | .nil => True
  | .cons _ emb t rest => (emb = true → isStructTy t = true) ∧ TyOK t ∧ FldsOK rest
def ImplsOK : Impls → Prop
  | .nil => True
  | .cons _ t rest => ImplTyOK t ∧ ImplsOK rest
def ImplTyOK : Ty → Prop
  | .struct fs => FldsOK fs ∧ SameKeyTy (closureFields fs) ∧ TypenameIsStr (closureFields fs)
  | _ => False
end

end Genq.Codec
