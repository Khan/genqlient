/-
Lemmas for C11 about the GET URL's query string: escaped text is made of an alphabet that holds none of the separators,
so that strings.Cut and the '&' split find each separator where url.Values.Encode put it; url.Values as a multimap
(`mmAdd` and `mmSet` are one traversal, `mmUpd`; without repeated keys a lookup does not depend on the order of the
entries, so not on the final sort); what is parsed from a byte string is made of byte strings.  Props/C11.lean puts
them together.
-/
import Genq.Proofs.HttpEscape
namespace Genq.Http

/-- the bytes url.QueryEscape can emit -/
def escAlphabet (c : Nat) : Bool := unreserved c || c == 37 || c == 43

theorem hexDigit_escAlphabet : ∀ n, n < 16 → escAlphabet (hexDigit n) = true := by decide

theorem mem_escapeByte {b c : Nat} (hb : b < 256) (hc : c ∈ escapeByte b) : escAlphabet c = true := by
  unfold escapeByte at hc
  split at hc
  · next hu => rw [List.mem_singleton.1 hc, escAlphabet, hu]; rfl
  · split at hc
    · rw [List.mem_singleton.1 hc]; rfl
    · simp only [List.mem_cons, List.not_mem_nil, or_false] at hc
      rcases hc with rfl | rfl | rfl
      · rfl
      · exact hexDigit_escAlphabet _ (Nat.div_lt_of_lt_mul hb)
      · exact hexDigit_escAlphabet _ (Nat.mod_lt _ (by decide))

theorem mem_queryEscape {c : Nat} {s : Bytes} (hs : allBytes s = true) (hc : c ∈ queryEscape s) :
    escAlphabet c = true := by
  induction s with
  | nil => cases hc
  | cons b bs ih =>
    have h := allBytes_cons.1 hs
    rw [queryEscape, List.mem_append] at hc
    exact hc.elim (mem_escapeByte h.1) (ih h.2)

/-! ### strings.Cut and the '&' split: a separator outside the pieces is found where it was put -/

theorem cutEq_append {a : Bytes} (ha : 61 ∉ a) (b : Bytes) : cutEq (a ++ 61 :: b) = (a, b) := by
  induction a with
  | nil => rfl
  | cons x xs ih =>
    obtain ⟨hx, hxs⟩ := not_or.1 (mt List.mem_cons.2 ha)
    rw [List.cons_append, cutEq, if_neg (by simpa using Ne.symm hx), ih hxs]

theorem splitOn_of_not_mem {sep : Nat} {x : Bytes} (hx : sep ∉ x) : splitOn sep x = [x] := by
  induction x with
  | nil => rfl
  | cons b bs ih =>
    obtain ⟨hb, hbs⟩ := not_or.1 (mt List.mem_cons.2 hx)
    rw [splitOn, if_neg (by simpa using Ne.symm hb), ih hbs]

theorem splitOn_append_sep {sep : Nat} {x : Bytes} (hx : sep ∉ x) (rest : Bytes) :
    splitOn sep (x ++ sep :: rest) = x :: splitOn sep rest := by
  induction x with
  | nil => rw [List.nil_append, splitOn, if_pos (beq_self_eq_true sep)]
  | cons b bs ih =>
    obtain ⟨hb, hbs⟩ := not_or.1 (mt List.mem_cons.2 hx)
    rw [List.cons_append, splitOn, if_neg (by simpa using Ne.symm hb), ih hbs]

theorem splitOn_intercalateAmp (x : Bytes) (xs : List Bytes) (h : ∀ y ∈ x :: xs, 38 ∉ y) :
    splitOn 38 (intercalateAmp (x :: xs)) = x :: xs := by
  induction xs generalizing x with
  | nil => exact splitOn_of_not_mem (h x (List.mem_singleton.2 rfl))
  | cons y ys ih =>
    show splitOn 38 (x ++ 38 :: intercalateAmp (y :: ys)) = _
    rw [splitOn_append_sep (h x (List.mem_cons_self ..)), ih y (fun z hz => h z (List.mem_cons_of_mem _ hz))]

theorem mem_encodePair {c : Nat} {kv : Bytes × Bytes} (h : allBytes kv.1 = true ∧ allBytes kv.2 = true)
    (hc : c ∈ encodePair kv) : escAlphabet c = true ∨ c = 61 := by
  simp only [encodePair, List.mem_append, List.mem_cons] at hc
  rcases hc with hc | rfl | hc
  · exact .inl (mem_queryEscape h.1 hc)
  · exact .inr rfl
  · exact .inl (mem_queryEscape h.2 hc)

theorem parsePair_encodePair (kv : Bytes × Bytes) (h : allBytes kv.1 = true ∧ allBytes kv.2 = true) :
    parsePair (encodePair kv) = some kv := by
  have hne : (encodePair kv).isEmpty = false := by
    unfold encodePair
    cases queryEscape kv.1 <;> rfl
  have hsemi : (encodePair kv).contains 59 = false := by
    rw [List.contains_eq_mem, decide_eq_false_iff_not]
    exact fun hm => absurd (mem_encodePair h hm) (by decide)
  have hcut : cutEq (encodePair kv) = (queryEscape kv.1, queryEscape kv.2) :=
    cutEq_append (fun hm => absurd (mem_queryEscape h.1 hm) (by decide)) _
  simp only [parsePair, hne, hsemi, hcut, Bool.false_eq_true, if_false, unescape_escape _ h.1,
    unescape_escape _ h.2]

theorem filterMap_map_of_leftInverse {α β : Type} {f : α → β} {g : β → Option α} {l : List α}
    (h : ∀ a ∈ l, g (f a) = some a) : (l.map f).filterMap g = l := by
  induction l with
  | nil => rfl
  | cons a l ih =>
    rw [List.map_cons, List.filterMap_cons, h a (List.mem_cons_self ..), ih fun b hb => h b (List.mem_cons_of_mem _ hb)]

/-- the values paired with key `k`, in order -/
def valuesOf (k : Bytes) (l : List (Bytes × Bytes)) : List Bytes :=
  (l.filter (fun p => p.1 == k)).map (·.2)

/-- url.Values.Get's list: the values under `k` -/
def lookupMM (k : Bytes) (m : MultiMap) : List Bytes :=
  (m.filter (fun e => e.1 == k)).flatMap (·.2)

/-- no key occurs twice -/
def KD (m : MultiMap) : Prop := (m.map (·.1)).Nodup

theorem KD_cons {e : Bytes × List Bytes} {m : MultiMap} : KD (e :: m) ↔ e.1 ∉ m.map (·.1) ∧ KD m :=
  List.nodup_cons

theorem valuesOf_append (k : Bytes) (a b : List (Bytes × Bytes)) :
    valuesOf k (a ++ b) = valuesOf k a ++ valuesOf k b := by
  simp [valuesOf, List.filter_append]

theorem valuesOf_mapKey (k k' : Bytes) (vs : List Bytes) :
    valuesOf k (vs.map fun v => (k', v)) = if (k' == k) = true then vs else [] := by
  cases h : k' == k <;> simp [valuesOf, List.filter_map, Function.comp_def, h]

theorem lookupMM_cons (k : Bytes) (e : Bytes × List Bytes) (m : MultiMap) :
    lookupMM k (e :: m) = (if (e.1 == k) = true then e.2 else []) ++ lookupMM k m := by
  cases h : e.1 == k <;> simp [lookupMM, h]

theorem valuesOf_flatten (k : Bytes) : ∀ m : MultiMap, valuesOf k (flattenMM m) = lookupMM k m
  | [] => rfl
  | e :: m => by
    rw [lookupMM_cons, ← valuesOf_flatten k m, ← valuesOf_mapKey, ← valuesOf_append]
    rfl

theorem mem_valuesOf {k v : Bytes} {l : List (Bytes × Bytes)} : v ∈ valuesOf k l ↔ (k, v) ∈ l := by
  simp only [valuesOf, List.mem_map, List.mem_filter, beq_iff_eq]
  exact ⟨fun ⟨p, ⟨hp, hk⟩, hv⟩ => by rw [← hk, ← hv]; exact hp, fun h => ⟨_, ⟨h, rfl⟩, rfl⟩⟩

theorem lookupMM_absent {k : Bytes} {m : MultiMap} (h : k ∉ m.map (·.1)) : lookupMM k m = [] := by
  induction m with
  | nil => rfl
  | cons e m ih =>
    simp only [List.map_cons, List.mem_cons, not_or] at h
    have : (e.1 == k) = false := by simpa using Ne.symm h.1
    rw [lookupMM_cons, ih h.2, this]
    rfl

/-- `mmAdd` and `mmSet` are one traversal: act on the values of the entry for `k`, or append a new entry -/
def mmUpd (f : List Bytes → List Bytes) (k : Bytes) : MultiMap → MultiMap
  | [] => [(k, f [])]
  | e :: rest => if e.1 == k then (e.1, f e.2) :: rest else e :: mmUpd f k rest

theorem mmAdd_eq (m : MultiMap) (k v : Bytes) : mmAdd m k v = mmUpd (· ++ [v]) k m := by
  induction m with
  | nil => rfl
  | cons e m ih => simp only [mmAdd, mmUpd, ih]

theorem mmSet_eq (m : MultiMap) (k v : Bytes) : mmSet m k v = mmUpd (fun _ => [v]) k m := by
  induction m with
  | nil => rfl
  | cons e m ih => simp only [mmSet, mmUpd, ih]

theorem keys_mmUpd (f : List Bytes → List Bytes) (k : Bytes) (m : MultiMap) :
    (mmUpd f k m).map (·.1) = if k ∈ m.map (·.1) then m.map (·.1) else m.map (·.1) ++ [k] := by
  -- the cases of `mmUpd`: the end of the map; the entry for `k`; another entry
  fun_induction mmUpd f k m with
  | case1 => rfl
  | case2 e rest he => simp [← beq_iff_eq.1 he]
  | case3 e rest he ih =>
    have : ¬ k = e.1 := fun h => he (beq_iff_eq.2 h.symm)
    simp only [List.map_cons, ih, List.mem_cons, this, false_or, apply_ite (e.1 :: ·), List.cons_append]

theorem KD_mmUpd (f : List Bytes → List Bytes) (k : Bytes) {m : MultiMap} (h : KD m) : KD (mmUpd f k m) := by
  unfold KD at *
  rw [keys_mmUpd]
  split
  · exact h
  · next hm => exact (List.perm_append_singleton k _).nodup_iff.2 (List.nodup_cons.2 ⟨hm, h⟩)

/-- on a map without repeated keys `mmUpd` acts on the looked-up values of its key and on nothing else -/
theorem lookupMM_mmUpd (f : List Bytes → List Bytes) (k k' : Bytes) {m : MultiMap} (h : KD m) :
    lookupMM k' (mmUpd f k m) = if (k == k') = true then f (lookupMM k' m) else lookupMM k' m := by
  induction m with
  | nil => cases hk : k == k' <;> simp [mmUpd, lookupMM, hk]
  | cons e m ih =>
    have hn := KD_cons.1 h
    have ih := ih hn.2
    simp only [mmUpd]
    -- the key looked up is the one updated, and the head entry is it or is not; another key, likewise
    by_cases hk : k = k'
    · subst hk
      simp only [beq_self_eq_true, if_true] at ih ⊢
      by_cases he : e.1 = k
      · simp [he, lookupMM_cons, lookupMM_absent (he ▸ hn.1)]
      · simp [he, lookupMM_cons, ih]
    · have hk' : (k == k') = false := by simpa using hk
      simp only [hk', Bool.false_eq_true, if_false] at ih ⊢
      by_cases he : e.1 = k
      · simp [he, lookupMM_cons, hk]
      · simp [he, lookupMM_cons, ih]

theorem foldl_mmAdd (k : Bytes) (l : List (Bytes × Bytes)) (m0 : MultiMap) (h : KD m0) :
    KD (l.foldl (fun m kv => mmAdd m kv.1 kv.2) m0) ∧
    lookupMM k (l.foldl (fun m kv => mmAdd m kv.1 kv.2) m0) = lookupMM k m0 ++ valuesOf k l := by
  induction l generalizing m0 with
  | nil => exact ⟨h, (List.append_nil _).symm⟩
  | cons kv l ih =>
    have ih := ih (mmAdd m0 kv.1 kv.2) (mmAdd_eq .. ▸ KD_mmUpd _ _ h)
    refine ⟨ih.1, ?_⟩
    rw [List.foldl_cons, ih.2, mmAdd_eq, lookupMM_mmUpd _ _ _ h]
    cases hk : kv.1 == k <;> simp [valuesOf, hk]

theorem insertSorted_perm (e : Bytes × List Bytes) : ∀ m : MultiMap, (insertSorted e m).Perm (e :: m)
  | [] => .refl _
  | x :: xs => by
    simp only [insertSorted]
    split
    · exact .refl _
    · exact ((insertSorted_perm e xs).cons x).trans (.swap e x xs)

theorem sortMM_perm : ∀ m : MultiMap, (sortMM m).Perm m
  | [] => .refl _
  | e :: m => (insertSorted_perm e _).trans ((sortMM_perm m).cons e)

theorem KD_sortMM (m : MultiMap) (h : KD m) : KD (sortMM m) := by
  unfold KD at *
  exact ((sortMM_perm m).map _).nodup_iff.2 h

theorem lookupMM_of_mem {k : Bytes} {vs : List Bytes} {m : MultiMap} (h : KD m) (hm : (k, vs) ∈ m) :
    lookupMM k m = vs := by
  induction m with
  | nil => cases hm
  | cons e m ih =>
    have hn := KD_cons.1 h
    rw [lookupMM_cons]
    rcases List.mem_cons.1 hm with rfl | hm
    · simp [lookupMM_absent hn.1]
    · have : (e.1 == k) = false := by
        simpa using fun he : e.1 = k => hn.1 (he ▸ List.mem_map.2 ⟨_, hm, rfl⟩)
      simp [this, ih hn.2 hm]

/-- without repeated keys the order of the entries does not matter to a lookup -/
theorem lookupMM_perm {m m' : MultiMap} (hp : m'.Perm m) (h : KD m) (k : Bytes) : lookupMM k m' = lookupMM k m := by
  by_cases hk : k ∈ m.map (·.1)
  · obtain ⟨⟨k', vs⟩, he, rfl⟩ := List.mem_map.1 hk
    rw [lookupMM_of_mem h he, lookupMM_of_mem ((hp.map _).nodup_iff.2 h) (hp.mem_iff.2 he)]
  · rw [lookupMM_absent hk, lookupMM_absent (fun hs => hk ((hp.map _).mem_iff.1 hs))]

theorem splitOn_bytes (sep : Nat) (s : Bytes) (hs : allBytes s = true) : ∀ x ∈ splitOn sep s, allBytes x = true := by
  -- the cases of `splitOn`: the end; a separator; a byte whose rest splits into no piece at all (the branch is
  -- there, though the rest always gives one); a byte in front of the first piece of the rest
  fun_induction splitOn sep s with
  | case1 => intro x hx; rw [List.mem_singleton.1 hx]; rfl
  | case2 b bs _ ih =>
    intro x hx
    rcases List.mem_cons.1 hx with rfl | hx
    · rfl
    · exact ih (allBytes_cons.1 hs).2 x hx
  | case3 =>
    intro x hx; rw [List.mem_singleton.1 hx]
    exact allBytes_cons.2 ⟨(allBytes_cons.1 hs).1, rfl⟩
  | case4 b bs _ y ys heq ih =>
    have h1 := allBytes_cons.1 hs
    intro x hx
    rcases List.mem_cons.1 hx with rfl | hx
    · exact allBytes_cons.2 ⟨h1.1, ih h1.2 y (heq ▸ List.mem_cons_self ..)⟩
    · exact ih h1.2 x (heq ▸ List.mem_cons_of_mem _ hx)

theorem cutEq_bytes (p : Bytes) (hp : allBytes p = true) :
    allBytes (cutEq p).1 = true ∧ allBytes (cutEq p).2 = true := by
  -- the cases of `cutEq`: the end; the '='; another byte
  fun_induction cutEq p with
  | case1 => exact ⟨rfl, rfl⟩
  | case2 => exact ⟨rfl, (allBytes_cons.1 hp).2⟩
  | case3 b bs _ k v heq ih =>
    have h1 := allBytes_cons.1 hp
    rw [heq] at ih
    exact ⟨allBytes_cons.2 ⟨h1.1, (ih h1.2).1⟩, (ih h1.2).2⟩

theorem parsePair_bytes {p : Bytes} {kv : Bytes × Bytes} (hp : allBytes p = true)
    (h : parsePair p = some kv) : allBytes kv.1 = true ∧ allBytes kv.2 = true := by
  unfold parsePair at h
  split at h
  · cases h
  · split at h
    · cases h
    · have hc := cutEq_bytes p hp
      split at h
      next k v heq =>
      rw [heq] at hc
      split at h
      · next hk hv =>
        cases h
        exact ⟨unescape_bytes hc.1 hk, unescape_bytes hc.2 hv⟩
      · cases h

theorem parseQuery_bytes {q : Bytes} (hq : allBytes q = true) :
    ∀ kv ∈ parseQuery q, allBytes kv.1 = true ∧ allBytes kv.2 = true := by
  intro kv hkv
  obtain ⟨p, hp, hpk⟩ := List.mem_filterMap.1 hkv
  exact parsePair_bytes (splitOn_bytes 38 q hq p hp) hpk

end Genq.Http
