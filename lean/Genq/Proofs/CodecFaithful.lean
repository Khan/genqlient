/-
Faithfulness of the generated decoder in the model (Model/Codec.lean) — C02: after decoding one JSON object into
a struct, for EVERY carrier of a response key — the field of the struct itself and the field of every embedded
fragment struct (at any embedding depth) that selects the key — what MarshalJSON would write is the encoding
(`fieldEnc`) of the decoding, by that field's own type (`fieldDec`), of the value the object has for that key.
The carriers are reached through `encAll`, which lists them all; nothing is read from another key.
-/
import Genq.Proofs.CodecBasic
namespace Genq.Codec

open Genq.Types (J)

abbrev FFs (fs : Flds) : Prop := ∀ (o : List (String × J)) (vs : List Val) (d : Nat), decFields fs o = .ok vs →
  ∀ e ∈ encAll fs vs d, ∃ t v, (e.2.1, t) ∈ closureFields fs ∧ fieldDec t (lookup o e.2.1) = .ok v ∧ e.2.2 = fieldEnc t v
abbrev FEmb (t : Ty) : Prop := ∀ (o : List (String × J)) (v : Val) (d : Nat), dec t (.obj o) = .ok v →
  ∀ e ∈ encEmb t v d, ∃ t' w, (e.2.1, t') ∈ embFields t ∧ fieldDec t' (lookup o e.2.1) = .ok w ∧ e.2.2 = fieldEnc t' w

mutual
theorem faithfulFields : ∀ fs : Flds, FFs fs
  | .nil => fun _ _ _ _ _ he => nomatch he
  | .cons n emb t rest => fun o vs d h e he => by
    obtain ⟨v, ws, h1, h2, rfl⟩ := decFields_cons_ok.1 h
    rw [encAll_cons] at he
    rcases List.mem_append.1 he with he | he
    · cases emb with
      | true =>
        obtain ⟨t', w, hm, hd⟩ := faithfulEmb t o v (d + 1) h1 e he
        exact ⟨t', w, List.mem_append_left _ hm, hd⟩
      | false =>
        cases List.mem_singleton.1 he
        exact ⟨t, v, List.mem_append_left _ List.mem_cons_self, h1, rfl⟩
    · obtain ⟨t', w, hm, hd⟩ := faithfulFields rest o ws d h2 e he
      exact ⟨t', w, List.mem_append_right _ hm, hd⟩
theorem faithfulEmb : ∀ t : Ty, FEmb t
  | .struct fs => fun o _ d h e he => by
    obtain ⟨ws, h1, rfl⟩ := dec_struct_obj_ok h
    exact faithfulFields fs o ws d h1 e he
  | .leaf _ | .ptr _ | .slice _ | .iface _ => fun _ _ _ _ _ he => nomatch he
end

end Genq.Codec
