/-
What the functions of Model/Codec.lean do on each form of type and input — equations, and a successful decoding
inverted by the form of the type —, stated once, so that no proof has to unfold the mutual definitions again; the
json.RawMessage variants differ from the ordinary ones at lists only; `lookup` is core's `findRev?`; of the depth sort
and `dedup` behind `winners` the other modules need `winners_sound`, `winners_complete`, `winners_nodup` only.

A type occurs at six positions: t an ordinary value, s a field handled through json.RawMessage, f the field list of a
struct, e an embedded fragment struct, i the implementation list of an interface, h the implementation the switch has
chosen.  A mutual family over `Ty` / `Flds` / `Impls` in the codec modules has a member for each position it needs,
told apart by that letter (a suffix in CodecImg: `enT` … `enH`; in CodecRT the members are spelled out, `rtSpecial`,
`rtHead`, and the letter is the prefix of the lemmas per constructor, `rts_slice`, `rth_struct`).
-/
import Genq.Model.Codec
namespace Genq.Codec

open Genq.Types (J)

theorem bind_ok_inv {α β : Type} {x : Except Err α} {f : α → Except Err β} {b : β}
    (h : (x >>= f) = .ok b) : ∃ a, x = .ok a ∧ f a = .ok b := by
  cases x with
  | error e => cases h
  | ok a => exact ⟨a, rfl, h⟩

theorem map_ok_inv {α β : Type} {f : α → β} {x : Except Err α} {b : β} (h : x.map f = .ok b) :
    ∃ a, x = .ok a ∧ b = f a := by
  cases x with
  | error e => cases h
  | ok a => cases h; exact ⟨a, rfl, rfl⟩

theorem map_ok {α β : Type} {f : α → β} {x : Except Err α} {a : α} (h : x = .ok a) : x.map f = .ok (f a) :=
  h ▸ rfl

theorem mapM_ok {α β : Type} {f : α → Except Err β} {g : β → α} {vs : List β} (h : ∀ v ∈ vs, f (g v) = .ok v) :
    (vs.map g).mapM f = .ok vs := by
  induction vs with
  | nil => rfl
  | cons v vs ih =>
    rw [List.map_cons, List.mapM_cons, h v List.mem_cons_self, ih fun w hw => h w (List.mem_cons_of_mem _ hw)]
    rfl

theorem mapM_ok_inv {α β : Type} {f : α → Except Err β} {xs : List α} {vs : List β} (h : xs.mapM f = .ok vs) :
    ∀ v ∈ vs, ∃ x ∈ xs, f x = .ok v := by
  induction xs generalizing vs with
  | nil => cases h; exact fun _ hv => nomatch hv
  | cons x xs ih =>
    rw [List.mapM_cons] at h
    obtain ⟨a, h1, h⟩ := bind_ok_inv h
    obtain ⟨as, h2, h⟩ := bind_ok_inv h
    cases h
    intro v hv
    rcases List.mem_cons.1 hv with rfl | hv
    · exact ⟨x, List.mem_cons_self, h1⟩
    · obtain ⟨y, hy, hf⟩ := ih h2 v hv
      exact ⟨y, List.mem_cons_of_mem _ hy, hf⟩

/-! ### `lookup`: the last key that matches -/

theorem keyEq_self (n : String) : keyEq n n = true := by simp [keyEq]

/-- `lookup` is core's `findRev?` on the keys -/
theorem lookup_eq_findRev? (l : List (String × J)) (n : String) :
    lookup l n = (l.findRev? fun kv => keyEq kv.1 n).map (·.2) := by
  induction l with
  | nil => rfl
  | cons kv rest ih =>
    rw [lookup, ih, List.findRev?]
    cases rest.findRev? _ with
    | some _ => rfl
    | none => cases keyEq kv.1 n <;> rfl

theorem lookup_eq (l : List (String × J)) (n : String) :
    lookup l n = ((l.filter fun kv => keyEq kv.1 n).getLast?).map (·.2) := by
  rw [lookup_eq_findRev?, List.findRev?_eq_find?_reverse, List.getLast?_filter]

theorem lookup_none (l : List (String × J)) (n : String) (h : ∀ kv ∈ l, keyEq kv.1 n = false) : lookup l n = none := by
  rw [lookup_eq, List.filter_eq_nil_iff.2 fun kv hkv => Bool.eq_false_iff.1 (h kv hkv)]
  rfl

theorem lookup_filter (l : List (String × J)) (p : String × J → Bool) (n : String)
    (h : ∀ kv ∈ l, p kv = false → keyEq kv.1 n = false) : lookup (l.filter p) n = lookup l n := by
  rw [lookup_eq, lookup_eq, List.filter_filter]
  refine congrArg (fun l : List (String × J) => l.getLast?.map (·.2)) (List.filter_congr fun kv hkv => ?_)
  cases hp : p kv with
  | false => rw [h kv hkv hp]; rfl
  | true => exact Bool.and_true _

theorem lookup_of_mem (l : List (String × J)) (n : String) (j : J)
    (hnd : (l.map (·.1)).Nodup) (hfold : ∀ kv ∈ l, keyEq kv.1 n = true → kv.1 = n)
    (hm : (n, j) ∈ l) : lookup l n = some j := by
  induction l with
  | nil => cases hm
  | cons kv rest ih =>
    obtain ⟨hk, hnd⟩ := List.nodup_cons.1 hnd
    have hfold' := fun kv hkv => hfold kv (List.mem_cons_of_mem _ hkv)
    unfold lookup
    rcases List.mem_cons.1 hm with rfl | hm
    · -- the entry itself: nothing later is named n
      rw [lookup_none rest n fun kv hkv => Bool.eq_false_iff.2 fun hke =>
        hk (List.mem_map.2 ⟨kv, hkv, hfold' kv hkv hke⟩), keyEq_self]
      rfl
    · rw [ih hnd hfold' hm]

def isNull : J → Bool
  | .null => true
  | _ => false

def isStructTy : Ty → Bool
  | .struct _ => true
  | _ => false

def isSliceTy : Ty → Bool
  | .slice _ => true
  | _ => false

theorem dec_struct_obj_ok {fs : Flds} {o : List (String × J)} {v : Val} (h : dec (.struct fs) (.obj o) = .ok v) :
    ∃ vs, decFields fs o = .ok vs ∧ v = .struct vs :=
  map_ok_inv (x := decFields fs o) h

theorem dec_struct_ok {fs : Flds} {j : J} {v : Val} (h : dec (.struct fs) j = .ok v) :
    (j = .null ∧ v = .struct (zeros fs)) ∨ ∃ o vs, j = .obj o ∧ decFields fs o = .ok vs ∧ v = .struct vs := by
  cases j with
  | null => cases h; exact .inl ⟨rfl, rfl⟩
  | obj o => obtain ⟨vs, h1, rfl⟩ := dec_struct_obj_ok h; exact .inr ⟨o, vs, rfl, h1, rfl⟩
  | _ => cases h

theorem dec_ptr_nonnull (t : Ty) {j : J} (h : isNull j = false) : dec (.ptr t) j = (dec t j).map .ptr := by
  cases j <;> first | rfl | cases h

theorem dec_ptr_ok {t : Ty} {j : J} {v : Val} (h : dec (.ptr t) j = .ok v) :
    (j = .null ∧ v = .nilPtr) ∨ isNull j = false ∧ ∃ w, dec t j = .ok w ∧ v = .ptr w := by
  cases hj : isNull j with
  | true => cases j <;> cases hj; cases h; exact .inl ⟨rfl, rfl⟩
  | false => rw [dec_ptr_nonnull t hj] at h; exact .inr ⟨rfl, map_ok_inv h⟩

theorem dec_slice_ok {t : Ty} {j : J} {v : Val} (h : dec (.slice t) j = .ok v) :
    (j = .null ∧ v = .nilSlice) ∨ ∃ xs vs, j = .arr xs ∧ xs.mapM (fun x => dec t x) = .ok vs ∧ v = .slice vs := by
  cases j with
  | null => cases h; exact .inl ⟨rfl, rfl⟩
  | arr xs => obtain ⟨vs, h1, rfl⟩ := map_ok_inv (x := xs.mapM fun x => dec t x) h; exact .inr ⟨xs, vs, rfl, h1, rfl⟩
  | _ => cases h

theorem decSpecial_slice_ok {t : Ty} {j : J} {v : Val} (h : decSpecial (.slice t) j = .ok v) :
    (j = .null ∧ v = .slice []) ∨ ∃ xs vs, j = .arr xs ∧ xs.mapM (fun x => decSpecial t x) = .ok vs ∧ v = .slice vs := by
  cases j with
  | null => cases h; exact .inl ⟨rfl, rfl⟩
  | arr xs => obtain ⟨vs, h1, rfl⟩ := map_ok_inv (x := xs.mapM fun x => decSpecial t x) h; exact .inr ⟨xs, vs, rfl, h1, rfl⟩
  | _ => cases h

theorem dec_iface_eq (impls : Impls) (o : List (String × J)) :
    dec (.iface impls) (.obj o) =
      match typenameOf o with
      | .error e => .error e
      | .ok tn => if tn == "" then .error .missingTypename else decImpl impls tn (.obj o) :=
  rfl

theorem dec_iface_obj {impls : Impls} {o : List (String × J)} {tn : String} (h : typenameOf o = .ok tn) (hne : tn ≠ "") :
    dec (.iface impls) (.obj o) = decImpl impls tn (.obj o) := by
  rw [dec_iface_eq, h]
  exact if_neg (mt beq_iff_eq.1 hne)

theorem dec_iface_ok {impls : Impls} {j : J} {v : Val} (h : dec (.iface impls) j = .ok v) :
    (j = .null ∧ v = .nilIface) ∨
      ∃ o tn, j = .obj o ∧ typenameOf o = .ok tn ∧ tn ≠ "" ∧ decImpl impls tn (.obj o) = .ok v := by
  cases j with
  | null => cases h; exact .inl ⟨rfl, rfl⟩
  | obj o =>
    cases ht : typenameOf o with
    | error e => rw [dec_iface_eq, ht] at h; cases h
    | ok tn =>
      by_cases he : tn = ""
      · rw [dec_iface_eq, ht, he] at h; cases h
      · exact .inr ⟨o, tn, rfl, ht, he, (dec_iface_obj ht he).symm.trans h⟩
  | _ => cases h

theorem decImpl_head (n : String) (t : Ty) (rest : Impls) (j : J) :
    decImpl (.cons n t rest) n j = (dec t j).map (.iface n) :=
  if_pos (beq_self_eq_true n)

theorem decImpl_skip {n tn : String} (h : n ≠ tn) (t : Ty) (rest : Impls) (j : J) :
    decImpl (.cons n t rest) tn j = decImpl rest tn j :=
  if_neg (mt beq_iff_eq.1 h)

theorem encImpl_head (n : String) (t : Ty) (rest : Impls) (v : Val) : encImpl (.cons n t rest) n v = encHead t n v :=
  if_pos (beq_self_eq_true n)

theorem encImpl_skip {n tn : String} (h : n ≠ tn) (t : Ty) (rest : Impls) (v : Val) :
    encImpl (.cons n t rest) tn v = encImpl rest tn v :=
  if_neg (mt beq_iff_eq.1 h)

theorem decImpl_cons_ok {n : String} {t : Ty} {rest : Impls} {tn : String} {j : J} {r : Val}
    (h : decImpl (.cons n t rest) tn j = .ok r) :
    (n = tn ∧ ∃ v, dec t j = .ok v ∧ r = .iface tn v) ∨ (n ≠ tn ∧ decImpl rest tn j = .ok r) := by
  by_cases hn : n = tn
  · subst hn; rw [decImpl_head] at h; exact .inl ⟨rfl, map_ok_inv h⟩
  · rw [decImpl_skip hn] at h; exact .inr ⟨hn, h⟩

theorem decImpl_ok {impls : Impls} {tn : String} {j : J} {r : Val} (h : decImpl impls tn j = .ok r) :
    ∃ t v, findImpl impls tn = some t ∧ dec t j = .ok v ∧ r = .iface tn v := by
  -- no implementation; the first one is named `tn`; it is not
  fun_induction findImpl impls tn with
  | case1 => nomatch h
  | case2 n t rest tn hn =>
    cases beq_iff_eq.1 hn
    obtain ⟨v, h1, rfl⟩ := map_ok_inv ((decImpl_head ..).symm.trans h)
    exact ⟨t, v, rfl, h1, rfl⟩
  | case3 n t rest tn hn ih => exact ih ((decImpl_skip (mt beq_iff_eq.2 hn) ..).symm.trans h)

theorem typenameOf_lookup {o : List (String × J)} {tn : String} (h : typenameOf o = .ok tn) (hne : tn ≠ "") :
    lookup o "__typename" = some (.str tn) := by
  unfold typenameOf at h
  split at h
  · cases h; exact absurd rfl hne
  · cases h; assumption
  · cases h; exact absurd rfl hne
  · cases h

theorem decSpecial_eq_dec {t : Ty} (h : isSliceTy t = false) (j : J) : decSpecial t j = dec t j := by
  cases t <;> first | rfl | cases h

theorem encSpecial_eq_enc {t : Ty} (h : isSliceTy t = false) (v : Val) : encSpecial t v = enc t v := by
  cases t with
  | slice _ => cases h
  | _ => cases v <;> exact rfl

mutual
/-- (JSON name, type) of every field of a struct and of the structs embedded in it -/
def closureFields : Flds → List (String × Ty)
  | .nil => []
  | .cons n emb t rest => (if emb then embFields t else [(n, t)]) ++ closureFields rest
def embFields : Ty → List (String × Ty)
  | .struct fs => closureFields fs
  | _ => []
end

/-- what a field of type `t` holds after decoding an object in which its key reads `x` (`none`: no matching key) -/
def fieldDec (t : Ty) (x : Option J) : Except Err Val :=
  if special t then decSpecial t (x.getD .null)
  else match x with
    | none => .ok (zero t)
    | some j => dec t j

/-- what MarshalJSON writes for that field -/
def fieldEnc (t : Ty) (v : Val) : J := if special t then encSpecial t v else enc t v

theorem decFields_cons (n : String) (emb : Bool) (t : Ty) (rest : Flds) (o : List (String × J)) :
    decFields (.cons n emb t rest) o =
      (if emb then dec t (.obj o) else fieldDec t (lookup o n)) >>= fun v => decFields rest o >>= fun vs => pure (v :: vs) := by
  show (do
    let v ← if emb then dec t (.obj o) else if special t then decSpecial t ((lookup o n).getD .null)
            else match lookup o n with
              | none => .ok (zero t)
              | some j => dec t j
    let vs ← decFields rest o
    pure (v :: vs)) = _
  unfold fieldDec
  cases emb
  · cases special t
    · -- `do` carries the rest of the block into each branch of this match; the statement binds after it
      cases lookup o n <;> rfl
    · rfl
  · rfl

theorem decFields_cons_ok {n : String} {emb : Bool} {t : Ty} {rest : Flds} {o : List (String × J)} {vs : List Val} :
    decFields (.cons n emb t rest) o = .ok vs ↔
      ∃ v ws, (if emb then dec t (.obj o) else fieldDec t (lookup o n)) = .ok v ∧ decFields rest o = .ok ws ∧ vs = v :: ws := by
  rw [decFields_cons]
  constructor
  · intro h
    obtain ⟨v, h1, h⟩ := bind_ok_inv h
    obtain ⟨ws, h2, h⟩ := bind_ok_inv h
    cases h
    exact ⟨v, ws, h1, h2, rfl⟩
  · rintro ⟨v, ws, h1, h2, rfl⟩
    rw [h1, h2]
    rfl

theorem encAll_cons (n : String) (emb : Bool) (t : Ty) (rest : Flds) (v : Val) (vs : List Val) (d : Nat) :
    encAll (.cons n emb t rest) (v :: vs) d =
      (if emb then encEmb t v (d + 1) else [(d, n, fieldEnc t v)]) ++ encAll rest vs d := by
  show (if emb then encEmb t v (d + 1) else if special t then [(d, n, encSpecial t v)] else [(d, n, enc t v)]) ++ _ = _
  unfold fieldEnc
  cases emb
  · cases special t <;> rfl
  · rfl

theorem mem_encEmb {fs : Flds} {v : Val} {d : Nat} {e : Nat × String × J} (h : e ∈ encEmb (.struct fs) v d) :
    ∃ ws, v = .struct ws ∧ e ∈ encAll fs ws d := by
  cases v with
  | struct ws => exact ⟨ws, rfl, h⟩
  | _ => exact absurd h List.not_mem_nil

/-! ### the depth sort behind `winners`: a stable permutation that looks at the depth only -/

theorem insDepth_perm (e : Nat × String × J) : ∀ l, (insDepth e l).Perm (e :: l)
  | [] => .refl _
  | x :: xs => by
    unfold insDepth
    split
    · exact .refl _
    · exact ((insDepth_perm e xs).cons x).trans (.swap e x xs)

theorem sortDepth_perm : ∀ l, (sortDepth l).Perm l
  | [] => .refl _
  | e :: es => (insDepth_perm e _).trans ((sortDepth_perm es).cons e)

theorem mem_sortDepth (x : Nat × String × J) (l : List (Nat × String × J)) : x ∈ sortDepth l ↔ x ∈ l :=
  (sortDepth_perm l).mem_iff

theorem insDepth_after (e : Nat × String × J) (small rest : List (Nat × String × J)) (h : ∀ x ∈ small, x.1 < e.1) :
    insDepth e (small ++ rest) = small ++ insDepth e rest := by
  induction small with
  | nil => rfl
  | cons x small ih =>
    rw [List.cons_append, insDepth, if_neg (Nat.not_le.2 (h x List.mem_cons_self)),
      ih fun y hy => h y (List.mem_cons_of_mem _ hy)]
    rfl

theorem insDepth_front (e : Nat × String × J) (l : List (Nat × String × J)) (h : ∀ x ∈ l, e.1 ≤ x.1) :
    insDepth e l = e :: l := by
  cases l with
  | nil => rfl
  | cons x xs => exact if_pos (h x List.mem_cons_self)

theorem sortDepth_append (a b : List (Nat × String × J)) : sortDepth (a ++ b) = a.foldr insDepth (sortDepth b) := by
  induction a with
  | nil => rfl
  | cons e a ih => rw [List.cons_append, sortDepth, ih]; rfl

/-- entries deeper than all of `small` are sorted in behind it -/
theorem foldr_insDepth_after (a small rest : List (Nat × String × J)) (h : ∀ e ∈ a, ∀ x ∈ small, x.1 < e.1) :
    a.foldr insDepth (small ++ rest) = small ++ a.foldr insDepth rest := by
  induction a with
  | nil => rfl
  | cons e a ih =>
    rw [List.foldr_cons, ih fun e' he' => h e' (List.mem_cons_of_mem _ he'), List.foldr_cons]
    exact insDepth_after e small _ (h e List.mem_cons_self)

theorem insDepth_map (f : Nat × String × J → Nat × String × J) (hf : ∀ e, (f e).1 = e.1) (e : Nat × String × J)
    (l : List (Nat × String × J)) : insDepth (f e) (l.map f) = (insDepth e l).map f := by
  induction l with
  | nil => rfl
  | cons x xs ih =>
    rw [List.map_cons, insDepth, insDepth, hf, hf]
    split
    · rfl
    · rw [List.map_cons, ih]

/-- the depth sort looks at the depth only -/
theorem sortDepth_map (f : Nat × String × J → Nat × String × J) (hf : ∀ e, (f e).1 = e.1) (l : List (Nat × String × J)) :
    sortDepth (l.map f) = (sortDepth l).map f := by
  induction l with
  | nil => rfl
  | cons e es ih => rw [List.map_cons, sortDepth, sortDepth, ih, insDepth_map f hf]

/-! ### `dedup` keeps the first entry of every name.  Its three cases: no entry; the first entry's name was seen
    before; it is new, and is kept. -/

theorem dedup_sound (l : List (Nat × String × J)) (seen : List String) (n : String) (j : J)
    (h : (n, j) ∈ dedup l seen) : (∃ d, (d, n, j) ∈ l) ∧ n ∉ seen := by
  fun_induction dedup l seen with
  | case1 => cases h
  | case2 d m k rest seen hc ih =>
    obtain ⟨⟨d', hd⟩, hs⟩ := ih h
    exact ⟨⟨d', List.mem_cons_of_mem _ hd⟩, hs⟩
  | case3 d m k rest seen hc ih =>
    rcases List.mem_cons.1 h with h | h
    · cases h
      exact ⟨⟨d, List.mem_cons_self⟩, fun hm => hc (List.contains_iff_mem.2 hm)⟩
    · obtain ⟨⟨d', hd⟩, hs⟩ := ih h
      exact ⟨⟨d', List.mem_cons_of_mem _ hd⟩, fun hm => hs (List.mem_cons_of_mem _ hm)⟩

theorem dedup_complete (l : List (Nat × String × J)) (seen : List String) (d : Nat) (n : String) (j : J)
    (h : (d, n, j) ∈ l) (hs : n ∉ seen) : ∃ j', (n, j') ∈ dedup l seen := by
  fun_induction dedup l seen with
  | case1 => cases h
  | case2 d' m k rest seen hc ih =>
    rcases List.mem_cons.1 h with h | h
    · cases h; exact absurd (List.contains_iff_mem.1 hc) hs
    · exact ih h hs
  | case3 d' m k rest seen hc ih =>
    by_cases hmn : m = n
    · exact ⟨k, hmn ▸ List.mem_cons_self⟩
    · rcases List.mem_cons.1 h with h | h
      · cases h; exact absurd rfl hmn
      · obtain ⟨j', hj'⟩ := ih h fun hm => (List.mem_cons.1 hm).elim (fun h2 => hmn h2.symm) hs
        exact ⟨j', List.mem_cons_of_mem _ hj'⟩

theorem dedup_nodup (l : List (Nat × String × J)) (seen : List String) : ((dedup l seen).map (·.1)).Nodup := by
  fun_induction dedup l seen with
  | case1 => exact .nil
  | case2 d m k rest seen hc ih => exact ih
  | case3 d m k rest seen hc ih =>
    refine List.nodup_cons.2 ⟨fun hm => ?_, ih⟩
    obtain ⟨⟨m', j'⟩, hmem, rfl⟩ := List.mem_map.1 hm
    exact (dedup_sound rest (m' :: seen) m' j' hmem).2 List.mem_cons_self

/-! ### `winners`: every entry of the marshaled object is some field's, every field's name has an entry, no name has two -/

theorem winners_sound {all : List (Nat × String × J)} {n : String} {j : J} (h : (n, j) ∈ winners all) :
    ∃ d, (d, n, j) ∈ all :=
  (dedup_sound (sortDepth all) [] n j h).1.imp fun _ hd => (mem_sortDepth _ all).1 hd

theorem winners_complete {all : List (Nat × String × J)} {d : Nat} {n : String} {j : J} (h : (d, n, j) ∈ all) :
    ∃ j', (n, j') ∈ winners all :=
  dedup_complete (sortDepth all) [] d n j ((mem_sortDepth _ all).2 h) List.not_mem_nil

theorem winners_nodup (all : List (Nat × String × J)) : ((winners all).map (·.1)).Nodup :=
  dedup_nodup _ _

end Genq.Codec
