/-
Proofs about Model/Lines.lean: the line slice parsePrecedingComment uses (since fa11825) is exactly the lexer's
division into lines, for every input; so the scan above any node stays inside it (C07), and the lines it sees do
not depend on the file's line-ending convention (C17).

`lexLines`, `lexBreaks` and `normalize` read a text with one character of look-ahead and branch alike, eight ways:
the empty text; a text of one character, "\r", "\n" or another; a longer one that starts with "\r\n", with a "\r"
and no "\n" behind it, with "\n", or with another character.  `linesFixed_eq_lexLines`, `lexLines_length` and `lexBreaks_prefix_le` go through these cases of one
of the functions (`fun_induction`, in this order); the tests that define a case pick the matching branch of the
others.
-/
import Genq.Model.Lines
namespace Genq.Lines

theorem linesFixed_eq_lexLines (s : Str) : linesFixed s = lexLines s := by
  unfold linesFixed
  fun_induction lexLines s with
  | case1 => rfl
  | case2 c hr => simp [normalize, splitNL, hr]
  | case3 c hr hn | case4 c hr hn => simp [normalize, splitNL, consHead, hr, hn]
  | case5 c d rest hr h ih | case6 c d rest hr h ih | case7 c d rest hr h ih | case8 c d rest hr h ih =>
    simp [normalize, splitNL, hr, h, ih]

theorem consHead_length {c : Char} {l : List Str} {n : Nat} (h : l.length = n + 1) : (consHead c l).length = n + 1 := by
  cases l with
  | nil => cases h
  | cons x xs => exact h

theorem lexLines_length (s : Str) : (lexLines s).length = lexBreaks s + 1 := by
  fun_induction lexLines s with
  | case1 => rfl
  | case2 c hr => simp [lexBreaks, hr]
  | case3 c hr hn | case4 c hr hn => simp [lexBreaks, hr, hn]
  | case5 c d rest hr h ih | case6 c d rest hr h ih | case7 c d rest hr h ih => simp [lexBreaks, hr, h, ih]
  | case8 c d rest hr hn ih => simp [lexBreaks, hr, hn, consHead_length ih]

theorem lexBreaks_prefix_le (pre post : Str) : lexBreaks pre ≤ lexBreaks (pre ++ post) := by
  fun_induction lexBreaks pre with
  | case1 | case4 => exact Nat.zero_le _
  | case2 c hr =>
    -- the one place where `pre` and `post` meet: `pre` is a "\r", and if `post` starts with "\n" the two are a
    -- single terminator of `pre ++ post` — still one, which is all `pre` had counted
    cases post with
    | nil => simp [lexBreaks, hr]
    | cons e q =>
      rw [List.singleton_append, lexBreaks, if_pos hr]
      split <;> exact Nat.succ_pos _
  | case3 c hr hn => cases post <;> simp [lexBreaks, hr, hn]
  | case5 c d rest hr h ih | case6 c d rest hr h ih | case7 c d rest hr h ih | case8 c d rest hr h ih =>
    simpa [lexBreaks, hr, h] using ih

/-- a token that starts right after `pre` is on line `lexBreaks pre + 1`; the fixed line slice has that line,
    whatever follows the token -/
theorem lexBreaks_lt_lines (pre post : Str) : lexBreaks pre < (linesFixed (pre ++ post)).length := by
  rw [linesFixed_eq_lexLines, lexLines_length]
  exact Nat.lt_succ_of_le (lexBreaks_prefix_le pre post)

/-! What the lexer does with the first character, or the first two: the definition unfolded (a text of one character
    is a case of its own there, hence `cases u`) and its tests decided. -/

theorem lexLines_char {c : Char} (hr : c ≠ '\r') (hn : c ≠ '\n') (u : Str) :
    lexLines (c :: u) = consHead c (lexLines u) := by
  cases u <;> exact (if_neg (mt beq_iff_eq.1 hr)).trans (if_neg (mt beq_iff_eq.1 hn))

theorem lexLines_nl (u : Str) : lexLines ('\n' :: u) = [] :: lexLines u := by
  cases u <;> rfl

theorem lexLines_crlf (u : Str) : lexLines ('\r' :: '\n' :: u) = [] :: lexLines u :=
  rfl

theorem lexLines_cr {u : Str} (h : u.head? ≠ some '\n') : lexLines ('\r' :: u) = [] :: lexLines u := by
  cases u with
  | nil => rfl
  | cons d r => exact (if_pos rfl).trans (if_neg (mt beq_iff_eq.1 (mt (congrArg some) h)))

def clean (l : Str) : Prop := ∀ c ∈ l, c ≠ '\r' ∧ c ≠ '\n'

theorem lexLines_clean_append {l : Str} (hl : clean l) {t x : Str} {xs : List Str} (h : lexLines t = x :: xs) :
    lexLines (l ++ t) = (l ++ x) :: xs := by
  induction l with
  | nil => exact h
  | cons c l ih =>
    have hc := hl c List.mem_cons_self
    rw [List.cons_append, lexLines_char hc.1 hc.2, ih fun a ha => hl a (List.mem_cons_of_mem _ ha)]
    rfl

theorem lexLines_clean {l : Str} (hl : clean l) : lexLines l = [l] := by
  simpa using lexLines_clean_append hl (t := []) rfl

inductive Ending | lf | crlf | cr
deriving DecidableEq, Repr

def Ending.str : Ending → Str
  | .lf => ['\n']
  | .crlf => ['\r', '\n']
  | .cr => ['\r']

/-- the file text: the lines joined by the terminator -/
def joinLines (e : Ending) : List Str → Str
  | [] => []
  | [l] => l
  | l :: l2 :: ls => l ++ e.str ++ joinLines e (l2 :: ls)

/-- the text starts with the first character of the first line, or with the "\r" after it, or is empty -/
theorem joinLines_cr_head {l : Str} (hl : clean l) (ls : List Str) : (joinLines .cr (l :: ls)).head? ≠ some '\n' := by
  cases l with
  | nil =>
    cases ls with
    | nil => nofun
    | cons _ _ => exact mt Option.some.inj (by decide)
  | cons c l => cases ls <;> exact mt Option.some.inj (hl c List.mem_cons_self).2

theorem lexLines_joinLines (e : Ending) (l : Str) (ls : List Str) (hc : ∀ x ∈ l :: ls, clean x) :
    lexLines (joinLines e (l :: ls)) = l :: ls := by
  induction ls generalizing l with
  | nil => exact lexLines_clean (hc l List.mem_cons_self)
  | cons l2 ls ih =>
    obtain ⟨hl, hc'⟩ := List.forall_mem_cons.1 hc
    have ht : lexLines (e.str ++ joinLines e (l2 :: ls)) = [] :: lexLines (joinLines e (l2 :: ls)) := by
      cases e with
      | lf => exact lexLines_nl _
      | crlf => exact lexLines_crlf _
      | cr => exact lexLines_cr (joinLines_cr_head (hc' l2 List.mem_cons_self) ls)
    show lexLines (l ++ e.str ++ _) = _
    rw [List.append_assoc, lexLines_clean_append hl ht, List.append_nil, ih l2 hc']

end Genq.Lines
