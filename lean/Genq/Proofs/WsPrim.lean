/-
The WebSocket model seen through its primitive world updates.

An action of an API call looks its program counter up, decides from it an effect on the shared state
and the next program counter (`next`), performs the effect (`Eff.apply`) and stores the counter
(`setCall`): `stepCall_eq`.  What an invariant has to know of a call action is what the seven effects
do, each a record update of the world; what a progress argument has to know is the table `next`.
The reader's `dispatch` does one of three things (`dispatch_cases`) and its own action is read off its
state (`rstep_top` … `rstep_done`); a `step` is of one of six kinds (`step_kind`), and a property of
runs is a property of steps (`run_induction`).  The invariant modules rest on these.
-/
import Genq.Model.Ws
namespace Genq.Ws

@[simp] theorem setCall_subs (w : World) (c : Nat) (k : Call) : (setCall w c k).subs = w.subs := rfl
@[simp] theorem setCall_panic (w : World) (c : Nat) (k : Call) : (setCall w c k).panic = w.panic := rfl
@[simp] theorem setCall_reader (w : World) (c : Nat) (k : Call) : (setCall w c k).reader = w.reader := rfl
@[simp] theorem setCall_mu (w : World) (c : Nat) (k : Call) : (setCall w c k).mu = w.mu := rfl
@[simp] theorem setCall_isClosing (w : World) (c : Nat) (k : Call) : (setCall w c k).isClosing = w.isClosing := rfl
@[simp] theorem setCall_connCloses (w : World) (c : Nat) (k : Call) : (setCall w c k).connCloses = w.connCloses := rfl
@[simp] theorem setCall_errChanCloses (w : World) (c : Nat) (k : Call) : (setCall w c k).errChanCloses = w.errChanCloses := rfl
@[simp] theorem setCall_written (w : World) (c : Nat) (k : Call) : (setCall w c k).written = w.written := rfl
@[simp] theorem setCall_frames (w : World) (c : Nat) (k : Call) : (setCall w c k).frames = w.frames := rfl
@[simp] theorem setCall_calls_length (w : World) (c : Nat) (k : Call) : (setCall w c k).calls.length = w.calls.length := by
  simp [setCall]
@[simp] theorem setCall_get (w : World) (c : Nat) (k : Call) (h : c < w.calls.length) :
    (setCall w c k).calls[c]? = some k := by
  simp [setCall, h]
theorem setCall_get_ne (w : World) {c d : Nat} (k : Call) (h : d ≠ c) : (setCall w c k).calls[d]? = w.calls[d]? :=
  List.getElem?_set_ne (Ne.symm h)

@[simp] theorem setSub_subs (w : World) (i : Nat) (s : Sub) : (setSub w i s).subs = w.subs.set i s := rfl
@[simp] theorem setSub_calls (w : World) (i : Nat) (s : Sub) : (setSub w i s).calls = w.calls := rfl
@[simp] theorem setSub_panic (w : World) (i : Nat) (s : Sub) : (setSub w i s).panic = w.panic := rfl
@[simp] theorem setSub_reader (w : World) (i : Nat) (s : Sub) : (setSub w i s).reader = w.reader := rfl
@[simp] theorem setSub_mu (w : World) (i : Nat) (s : Sub) : (setSub w i s).mu = w.mu := rfl
@[simp] theorem setSub_isClosing (w : World) (i : Nat) (s : Sub) : (setSub w i s).isClosing = w.isClosing := rfl
@[simp] theorem setSub_connCloses (w : World) (i : Nat) (s : Sub) : (setSub w i s).connCloses = w.connCloses := rfl
@[simp] theorem setSub_written (w : World) (i : Nat) (s : Sub) : (setSub w i s).written = w.written := rfl
@[simp] theorem setSub_frames (w : World) (i : Nat) (s : Sub) : (setSub w i s).frames = w.frames := rfl
@[simp] theorem setSub_subs_length (w : World) (i : Nat) (s : Sub) : (setSub w i s).subs.length = w.subs.length :=
  List.length_set

/-- what a call action or a `complete` frame may do to an entry: nothing to its payloads, and it stays
    ended; with the guarded close its channel is closed once, when it ends -/
def CtlStep (f : Flags) (s s' : Sub) : Prop :=
  s'.nexts = s.nexts ∧ s'.delivered = s.delivered ∧ (s.ended = true → s'.ended = true) ∧
  (f.idempotentEnd = true →
    (s'.ended = s.ended ∧ s'.closes = s.closes) ∨ (s.ended = false ∧ s'.ended = true ∧ s'.closes = s.closes + 1))

/-- `l'` is `l` with at most one entry replaced, by an `R`-related one -/
def SetRel (R : Sub → Sub → Prop) (l l' : List Sub) : Prop :=
  l' = l ∨ ∃ i s s', l[i]? = some s ∧ R s s' ∧ l' = l.set i s'

theorem SetRel.length_eq {R : Sub → Sub → Prop} {l l' : List Sub} (h : SetRel R l l') : l'.length = l.length := by
  rcases h with rfl | ⟨_, _, _, _, _, rfl⟩
  · rfl
  · exact List.length_set

theorem endSub_cases (f : Flags) (w : World) (i : SubId) (v : Bool) :
    endSub f w i v = w ∨
    ∃ s s' p, getSub w i = some s ∧ CtlStep f s s' ∧ endSub f w i v = { setSub w i s' with panic := p } := by
  unfold endSub
  cases hg : getSub w i with
  | none => exact .inl rfl
  | some s =>
    dsimp only
    cases hf : f.idempotentEnd
    · -- unguarded: the channel is closed whatever the entry says, with a panic if it was closed before
      refine .inr ⟨s, { s with ended := s.ended || v, closes := s.closes + 1 },
        if s.closes ≥ 1 then w.panic.or (some (.closeOfClosed i)) else w.panic, rfl,
        ⟨rfl, rfl, fun h => by simp [h], fun h => nomatch hf.symm.trans h⟩, ?_⟩
      show (if s.closes ≥ 1 then _ else _) = _
      split <;> rfl
    · cases he : s.ended
      · exact .inr ⟨s, { s with ended := true, closes := s.closes + 1 }, w.panic, rfl,
          ⟨rfl, rfl, fun _ => rfl, fun _ => .inr ⟨he, rfl, rfl⟩⟩, rfl⟩
      · exact .inl rfl

theorem endSub_eq (f : Flags) (w : World) (i : SubId) (v : Bool) :
    endSub f w i v = { w with subs := (endSub f w i v).subs, panic := (endSub f w i v).panic } := by
  rcases endSub_cases f w i v with h | ⟨_, _, _, _, _, h⟩ <;> rw [h] <;> rfl

theorem endSub_subs (f : Flags) (w : World) (i : SubId) (v : Bool) :
    SetRel (CtlStep f) w.subs (endSub f w i v).subs := by
  rcases endSub_cases f w i v with h | ⟨s, s', _, hg, hc, h⟩ <;> rw [h]
  · exact .inl rfl
  · exact .inr ⟨i, s, s', hg, hc, rfl⟩

/-- with the guarded close `endSub` ends a live entry, closing its channel once, and does nothing else -/
theorem endSub_guarded (f : Flags) (hf : f.idempotentEnd = true) (w : World) (i : SubId) (v : Bool) :
    (endSub f w i v = w ∧ ∀ s, getSub w i = some s → s.ended = true) ∨
    ∃ s, getSub w i = some s ∧ s.ended = false ∧
      endSub f w i v = setSub w i { s with ended := true, closes := s.closes + 1 } := by
  unfold endSub
  cases getSub w i with
  | none => exact .inl ⟨rfl, nofun⟩
  | some s =>
    cases he : s.ended
    · exact .inr ⟨s, rfl, he, by simp [hf, he]⟩
    · exact .inl ⟨by simp [hf, he], fun _ h => Option.some.inj h ▸ he⟩

theorem endSub_panic (w : World) (i : SubId) (v : Bool) :
    (endSub Flags.fixed w i v).panic = w.panic := by
  rcases endSub_guarded Flags.fixed rfl w i v with ⟨h, _⟩ | ⟨_, _, _, h⟩ <;> rw [h]; rfl

theorem closeFinal_eq (w : World) :
    closeFinal w = { w with isClosing := true, errChanCloses := w.errChanCloses + 1, connCloses := w.connCloses + 1,
                            panic := (closeFinal w).panic } := by
  unfold closeFinal; split <;> rfl

/-- what an action of an API call does to the world, its own program counter apart -/
inductive Eff
  | nop
  | wrote (fr : Frame)
  | complete (i : SubId)
  | close
  | unreg (i : SubId)
  | ends (i : SubId) (viaFlag : Bool)
  | final

/-- Every effect is written as a record update of `w`: what it leaves alone is then read off by `rfl`. -/
def Eff.apply (f : Flags) (w : World) : Eff → World
  | .nop => w
  | .wrote fr => { w with written := w.written ++ [fr] }
  | .complete i => { w with frames := w.frames ++ [.complete i] }
  | .close => { w with frames := w.frames ++ [.close] }
  | .unreg i => { w with subs := match getSub w i with
      | some s => w.subs.set i { s with registered := false }
      | none => w.subs }
  | .ends i v => { w with subs := (endSub f w i v).subs, panic := (endSub f w i v).panic }
  | .final => { w with isClosing := true, errChanCloses := w.errChanCloses + 1, connCloses := w.connCloses + 1,
                       panic := (closeFinal w).panic }

theorem Eff.apply_subs (f : Flags) (w : World) (e : Eff) : SetRel (CtlStep f) w.subs (e.apply f w).subs := by
  cases e with
  | unreg i =>
    simp only [Eff.apply]
    cases hg : getSub w i with
    | none => exact .inl rfl
    | some s => exact .inr ⟨i, s, { s with registered := false }, hg, ⟨rfl, rfl, id, fun _ => .inl ⟨rfl, rfl⟩⟩, rfl⟩
  | ends i v => exact endSub_subs f w i v
  | _ => exact .inl rfl

/-! No effect touches a program counter, the reader's state or the mutex flag, and none adds or removes an entry. -/

@[simp] theorem Eff.apply_calls (f : Flags) (w : World) (e : Eff) : (e.apply f w).calls = w.calls := by cases e <;> rfl
@[simp] theorem Eff.apply_reader (f : Flags) (w : World) (e : Eff) : (e.apply f w).reader = w.reader := by cases e <;> rfl
@[simp] theorem Eff.apply_mu (f : Flags) (w : World) (e : Eff) : (e.apply f w).mu = w.mu := by cases e <;> rfl
@[simp] theorem Eff.apply_subs_length (f : Flags) (w : World) (e : Eff) : (e.apply f w).subs.length = w.subs.length :=
  (e.apply_subs f w).length_eq

/-- only Close's final section touches what it is there to set: `isClosing`, the connection, the error channel -/
theorem Eff.apply_closeState (f : Flags) (w : World) (e : Eff) :
    e = .final ∨ ((e.apply f w).isClosing = w.isClosing ∧ (e.apply f w).connCloses = w.connCloses ∧
      (e.apply f w).errChanCloses = w.errChanCloses) := by
  cases e with
  | final => exact .inl rfl
  | _ => exact .inr ⟨rfl, rfl, rfl⟩

/-- the map update of Unsubscribe: ends a registered entry, fails otherwise -/
def unsub (w : World) (i : SubId) (fail ok : Call) : Eff × Call :=
  match getSub w i with
  | some s => if s.registered then (.ends i true, ok) else (.nop, fail)
  | none => (.nop, fail)

theorem unsub_cases (w : World) (i : SubId) (fail ok : Call) :
    unsub w i fail ok = (.nop, fail) ∨ unsub w i fail ok = (.ends i true, ok) := by
  unfold unsub
  cases getSub w i with
  | none => exact .inl rfl
  | some s =>
    dsimp only
    cases s.registered
    · exact .inl rfl
    · exact .inr rfl

/-- effect and next program counter of a call at `k` whose pending write (if any) returns `b` -/
def next (f : Flags) (w : World) (b : Bool) : Call → Option (Eff × Call)
  | .subWrite i => if b then some (.wrote (.subscribe i), .ret true) else (getSub w i).map fun _ => (.unreg i, .ret false)
  | .unsubWrite i => some (if b then (.wrote (.complete i), .unsubMap i) else (.nop, .ret false))
  | .unsubMap i => if b then some (unsub w i (.ret false) (.ret true)) else none
  | .closeIds acc fd => if b then some (.nop, .closeNext (liveIds f w) acc fd) else none
  | .closeNext [] acc fd =>
    if b then some (if fd then (.nop, .closeFinal acc) else (.close, .closeFrameWrite none acc)) else none
  | .closeNext (x :: r) acc fd =>
    let i := pick w.closeOrder (x :: r)
    if b then some (.complete i, .closeUnsubWrite i ((x :: r).erase i) acc fd) else none
  | .closeUnsubWrite i rest acc fd =>
    some (if b then (.wrote (.complete i), .closeUnsubMap i rest acc fd) else (.nop, closeAfterUnsub f rest acc fd false))
  | .closeUnsubMap i rest acc fd =>
    if b then some (unsub w i (closeAfterUnsub f rest acc fd false) (closeAfterUnsub f rest acc fd true)) else none
  | .closeFrameWrite todo acc =>
    let go (acc : CloseAcc) : Call := match todo with
      | none => .closeFinal acc
      | some _ => .closeIds acc true
    if b then some (.wrote .close, go acc)
    else some (.nop, if f.closeAlwaysCleans then go .failed else .ret false)
  | .closeFinal acc => if b && !w.mu then some (.final, .ret (acc == .noErr)) else none
  | .ret _ => none

theorem stepCall_eq {f : Flags} {w : World} {c : Nat} {k : Call} (hk : w.calls[c]? = some k) (b : Bool) :
    stepCall f w c b = (next f w b k).map fun p => setCall (p.1.apply f w) c p.2 := by
  -- the map update of Unsubscribe, which Unsubscribe and Close share
  have hu : ∀ (i : SubId) (fail ok : Call),
      (match getSub w i with
        | none => some (setCall w c fail)
        | some s => if !s.registered then some (setCall w c fail) else some (setCall (endSub f w i true) c ok)) =
      some (setCall ((unsub w i fail ok).1.apply f w) c (unsub w i fail ok).2) := by
    intro i fail ok
    unfold unsub
    cases getSub w i with
    | none => rfl
    | some s =>
      dsimp only
      cases s.registered
      · rfl
      · rw [endSub_eq]; rfl
  unfold stepCall
  rw [hk]
  cases k with
  | subWrite i =>
    cases b
    · cases hg : getSub w i <;> simp only [next, Eff.apply, Option.map, hg, Bool.false_eq_true, if_false] <;> rfl
    · rfl
  | unsubMap i => cases b with | false => rfl | true => exact hu ..
  | closeUnsubMap i rest acc fd => cases b with | false => rfl | true => exact hu ..
  | closeNext rest acc fd => cases rest <;> cases b <;> cases fd <;> rfl
  | closeFrameWrite todo acc =>
    -- `next` on the right is still folded: take `f` itself apart, so that both sides see the switch
    obtain ⟨_, _, _, cleans, _⟩ := f
    cases b <;> cases todo <;> cases cleans <;> rfl
  | closeFinal acc =>
    cases b
    · rfl
    · simp only [next]
      cases w.mu
      · rw [closeFinal_eq]; rfl
      · rfl
  | unsubWrite | closeIds | closeUnsubWrite | ret => cases b <;> rfl

theorem stepCall_some {f : Flags} {w w' : World} {c : Nat} {b : Bool} (hs : stepCall f w c b = some w') :
    ∃ k e k', w.calls[c]? = some k ∧ next f w b k = some (e, k') ∧ w' = setCall (e.apply f w) c k' := by
  cases hk : w.calls[c]? with
  | none => unfold stepCall at hs; rw [hk] at hs; cases hs
  | some k =>
    rw [stepCall_eq hk] at hs
    cases hn : next f w b k with
    | none => rw [hn] at hs; cases hs
    | some p => rw [hn] at hs; cases hs; exact ⟨k, p.1, p.2, rfl, hn, rfl⟩

theorem setCall_apply_get {f : Flags} {w : World} {c : Nat} {k : Call} (e : Eff) (k' : Call) (hk : w.calls[c]? = some k) :
    (setCall (e.apply f w) c k').calls[c]? = some k' :=
  setCall_get _ c k' (by rw [e.apply_calls]; exact (List.getElem?_eq_some_iff.1 hk).1)

/-- the three things the reader does with a frame: drop it (unknown, ended or undecodable), end the entry
    on `complete` (the effect `ends` of Unsubscribe's map update: both are subscriptionMap.Unsubscribe), or take a
    payload for delivery -/
theorem dispatch_cases (f : Flags) (w : World) (m : Msg) :
    (∃ r, (r = .herr ∨ r = .top) ∧ dispatch f w m = { w with reader := r }) ∨
    (∃ i, dispatch f w m = { (Eff.ends i false).apply f w with reader := .top }) ∨
    (∃ i p s, getSub w i = some s ∧ s.ended = false ∧
      dispatch f w m = { setSub w i { s with nexts := s.nexts ++ [p] } with reader := .send i p }) := by
  generalize hx : dispatch f w m = x
  -- the three frames with an id share the lookup; `live` is what is done for a live entry
  have key : ∀ (i : SubId) (live : Sub → World),
      x = (match getSub w i with
        | none => { w with reader := .herr }
        | some s => if !s.registered then { w with reader := .herr } else if s.ended then { w with reader := .top }
                    else live s) →
      (∃ r, (r = .herr ∨ r = .top) ∧ x = { w with reader := r }) ∨
      ∃ s, getSub w i = some s ∧ s.ended = false ∧ x = live s := by
    intro i live h
    cases hg : getSub w i with
    | none => exact .inl ⟨_, .inl rfl, by rw [h, hg]⟩
    | some s =>
      rw [hg] at h
      cases hr : s.registered <;> cases he : s.ended <;> simp only [hr, he] at h
      · exact .inl ⟨_, .inl rfl, h⟩
      · exact .inl ⟨_, .inl rfl, h⟩
      · exact .inr ⟨s, rfl, he, h⟩
      · exact .inl ⟨_, .inr rfl, h⟩
  cases m with
  | garbage => exact .inl ⟨_, .inl rfl, hx.symm⟩
  | complete i =>
    rcases key i _ hx.symm with h | ⟨s, _, _, h⟩
    · exact .inl h
    · exact .inr (.inl ⟨i, by rw [h, endSub_eq]; rfl⟩)
  | other i =>
    rcases key i _ hx.symm with h | ⟨s, _, _, h⟩
    · exact .inl h
    · exact .inl ⟨_, .inl rfl, h⟩
  | next i p dec =>
    rcases key i _ hx.symm with h | ⟨s, hg, he, h⟩
    · exact .inl h
    · cases dec
      · exact .inl ⟨_, .inl rfl, h⟩
      · exact .inr (.inr ⟨i, p, s, hg, he, h⟩)

section
variable {f : Flags} {w : World}

theorem rstep_top (h : w.reader = .top) :
    step f w .rstep = some { w with reader := if w.isClosing then .done else .read } := by
  unfold step; simp only [h]; cases w.isClosing <;> rfl

theorem rstep_read (h : w.reader = .read) :
    step f w .rstep = if w.connCloses ≥ 1 then some { w with reader := .herr } else none := by
  unfold step; simp only [h]

theorem rstep_send {i : SubId} {p : Payload} (h : w.reader = .send i p) :
    step f w .rstep = (getSub w i).bind fun s =>
      if s.closes ≥ 1 then some { w with reader := .done, panic := w.panic.or (some (.sendOnClosed i)) } else none := by
  unfold step; simp only [h]; cases getSub w i <;> rfl

theorem rstep_herr (h : w.reader = .herr) :
    step f w .rstep = if w.mu then none else
      some (if w.isClosing then { w with reader := .done } else { w with mu := true, reader := .herrSend }) := by
  unfold step; simp only [h]; cases w.mu <;> cases w.isClosing <;> rfl

theorem rstep_herrSend (h : w.reader = .herrSend) :
    step f w .rstep =
      if f.errChanBuffered then some { w with errQueued := w.errQueued + 1, mu := false, reader := .done } else none := by
  unfold step; simp only [h]

theorem rstep_done (h : w.reader = .done) : step f w .rstep = none := by
  unfold step; simp only [h]

end

/-- between two frames: the reader holds no payload and has not finished -/
def Reader.idle : Reader → Bool
  | .send _ _ | .done => false
  | _ => true

/-- the reader between two frames (its own action, a failed read, a frame it drops), or the application taking
    an error: entries, program counters, logs and Close's flags stay; the reader does not start a delivery, and
    holds the mutex exactly in `herrSend` -/
structure ReaderMove (w w' : World) : Prop where
  eq : w' = { w with reader := w'.reader, mu := w'.mu, errQueued := w'.errQueued, errReceived := w'.errReceived,
                     panic := w'.panic }
  reader : w'.reader = w.reader ∨ w'.reader = .done ∨ (w.reader.idle = true ∧ w'.reader.idle = true)
  mu : (w.mu = true ↔ w.reader = .herrSend) → (w'.mu = true ↔ w'.reader = .herrSend)

/-- the reader goes from state `r0` on to `r`, neither being `herrSend`: the mutex is not involved -/
theorem ReaderMove.goto {w : World} {r0 r : Reader} {p : Option PanicKind} (h0 : w.reader = r0)
    (h : r0 ≠ .herrSend) (h' : r ≠ .herrSend) (hr : r = .done ∨ (r0.idle = true ∧ r.idle = true)) :
    ReaderMove w { w with reader := r, panic := p } :=
  ⟨rfl, .inr (h0 ▸ hr), fun hm => ⟨fun hmu => absurd (h0 ▸ hm.1 hmu) h, fun hr => absurd hr h'⟩⟩

inductive StepKind (f : Flags) (w : World) (e : Ev) (w' : World) : Prop
  | spawn (k : Call) (ss : List Sub) (l : List Frame)
      (h : w' = { w with subs := w.subs ++ ss, frames := w.frames ++ l, calls := w.calls ++ [k] })
      (hl : (ss = [] ∧ (l = [] ∨ (∃ i, l = [.complete i]) ∨ l = [.close])) ∨
            (ss = [{}] ∧ l = [.subscribe w.subs.length]))
  | call (c : Nat) (b : Bool) (he : e = (if b then .step c else .stepFail c)) (h : stepCall f w c b = some w')
  | complete (i : SubId) (hr : w.reader = .read) (h : w' = { (Eff.ends i false).apply f w with reader := .top })
  | take (i : SubId) (p : Payload) (s : Sub) (hr : w.reader = .read) (hg : getSub w i = some s) (he : s.ended = false)
      (h : w' = { setSub w i { s with nexts := s.nexts ++ [p] } with reader := .send i p })
  | recv (i : SubId) (p : Payload) (s : Sub) (hr : w.reader = .send i p) (hg : getSub w i = some s)
      (h : w' = { setSub w i { s with delivered := s.delivered ++ [p] } with reader := .top })
  | reader (h : ReaderMove w w')

theorem step_kind {f : Flags} {w w' : World} {e : Ev} (hs : step f w e = some w') : StepKind f w e w' := by
  cases e with
  | subscribe => cases hs; exact .spawn _ [{}] _ rfl (.inr ⟨rfl, rfl⟩)
  | unsubscribe i => cases hs; exact .spawn (.unsubWrite i) [] _ (by simp) (.inl ⟨rfl, .inr (.inl ⟨i, rfl⟩)⟩)
  | close =>
    simp only [step] at hs
    split at hs <;> cases hs
    · exact .spawn (.closeIds .noErr false) [] [] (by simp) (.inl ⟨rfl, .inl rfl⟩)
    · exact .spawn (.closeFrameWrite (some []) .noErr) [] _ (by simp) (.inl ⟨rfl, .inr (.inr rfl)⟩)
  | step c => exact .call c true rfl hs
  | stepFail c =>
    -- enabled at the four program counters parked in a connection write, and then that call's action
    simp only [step] at hs
    split at hs
    iterate 4 exact .call c false rfl hs
    cases hs
  | server m =>
    cases hr : w.reader <;> simp only [step, hr, reduceCtorEq] at hs
    case read =>
      split at hs <;> cases hs
      -- a frame that is dropped (to `herr` or to `top`) moves the reader as a failed read does
      rcases dispatch_cases f w m with ⟨r, rfl | rfl, hd⟩ | ⟨i, hd⟩ | ⟨i, p, s, hg, he, hd⟩ <;> rw [hd]
      iterate 2 exact .reader (.goto hr nofun nofun (.inr ⟨rfl, rfl⟩))
      · exact .complete i hr rfl
      · exact .take i p s hr hg he rfl
  | readErr =>
    cases hr : w.reader <;> simp only [step, hr, reduceCtorEq] at hs
    case read => cases hs; exact .reader (.goto hr nofun nofun (.inr ⟨rfl, rfl⟩))
  | recvData i =>
    cases hr : w.reader <;> simp only [step, hr, reduceCtorEq] at hs
    case send j p =>
      -- the application takes the payload the reader holds for this very channel, which is still open
      split at hs
      · rename_i hij
        obtain rfl : i = j := by simpa using hij
        cases hg : getSub w i with
        | none => rw [hg] at hs; cases hs
        | some s => simp only [hg] at hs; split at hs <;> cases hs; exact .recv i p s hr hg rfl
      · cases hs
  | rstep =>
    cases hr : w.reader with
    | top =>
      rw [rstep_top hr] at hs; cases hs
      split
      · exact .reader (.goto hr nofun nofun (.inl rfl))
      · exact .reader (.goto hr nofun nofun (.inr ⟨rfl, rfl⟩))
    | read =>
      rw [rstep_read hr] at hs
      split at hs <;> cases hs
      exact .reader (.goto hr nofun nofun (.inr ⟨rfl, rfl⟩))
    | send i p =>
      -- parked in a delivery, the reader goes on only when the channel was closed under it: a panic
      rw [rstep_send hr] at hs
      obtain ⟨s, -, hs⟩ := Option.bind_eq_some_iff.1 hs
      split at hs <;> cases hs
      exact .reader (.goto hr nofun nofun (.inl rfl))
    | herr =>
      rw [rstep_herr hr] at hs
      split at hs <;> cases hs
      split
      · exact .reader (.goto hr nofun nofun (.inl rfl))
      · exact .reader ⟨rfl, .inr (.inr ⟨by rw [hr]; rfl, rfl⟩), fun _ => ⟨fun _ => rfl, fun _ => rfl⟩⟩
    | herrSend =>
      rw [rstep_herrSend hr] at hs
      split at hs <;> cases hs
      exact .reader ⟨rfl, .inr (.inl rfl), fun _ => ⟨nofun, nofun⟩⟩
    | done => rw [rstep_done hr] at hs; cases hs
  | recvErr =>
    simp only [step] at hs
    split at hs
    · -- an error is taken from the buffer
      cases hs; exact .reader ⟨rfl, .inl rfl, id⟩
    · -- no buffer: the reader, blocked in its send (`herrSend`) with the mutex held, hands its error over
      split at hs
      · split at hs <;> cases hs; exact .reader ⟨rfl, .inr (.inl rfl), fun _ => ⟨nofun, nofun⟩⟩
      · cases hs

/-- what every step preserves holds along every run, together with any preorder the steps respect -/
theorem run_induction {f : Flags} {P : World → Prop} {R : World → World → Prop}
    (refl : ∀ w, R w w) (trans : ∀ {a b c}, R a b → R b c → R a c)
    (hstep : ∀ {w e w'}, P w → step f w e = some w' → P w' ∧ R w w') (w : World) (evs : List Ev) (h : P w) :
    P (run f w evs) ∧ R w (run f w evs) := by
  induction evs generalizing w with
  | nil => exact ⟨h, refl w⟩
  | cons e es ih =>
    show P (run f (if w.panic.isSome then w else (step f w e).getD w) es) ∧
      R w (run f (if w.panic.isSome then w else (step f w e).getD w) es)
    split
    · exact ih w h
    · cases hs : step f w e with
      | none => exact ih w h
      | some w' =>
        obtain ⟨h', r⟩ := hstep h hs
        exact ⟨(ih w' h').1, trans r (ih w' h').2⟩

theorem run_invariant {f : Flags} {P : World → Prop} (hstep : ∀ {w e w'}, P w → step f w e = some w' → P w')
    (w : World) (evs : List Ev) (h : P w) : P (run f w evs) :=
  (run_induction (R := fun _ _ => True) (fun _ => trivial) (fun _ _ => trivial)
    (fun h hs => ⟨hstep h hs, trivial⟩) w evs h).1

end Genq.Ws
