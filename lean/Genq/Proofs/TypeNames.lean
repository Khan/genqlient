/-
Facts about the prefix-list naming of generated types (Model/TypeNames.lean) — C09.

What the naming scheme does guarantee: a generated name always starts with the name of the operation (or
fragment) it belongs to and — below the operation's own type — ends with the (cased) GraphQL type name; so the
names of two operations neither of whose names is a prefix of the other's never coincide
(C09_unrelated_operations_never_share_names, in Props/C09.lean).  What it does not
guarantee (names.go documents this in a TODO): injectivity — see the witness in Props/C09.lean.  That is why the
type map's check (Model/TypeMap.lean) carries the property.
-/
import Genq.Model.TypeNames
namespace Genq.Names

theorem typeNameParts_extends (p : Prefix) (tn : Name) (algo : Casing) : p <+: typeNameParts p tn algo := by
  unfold typeNameParts
  simp only  -- the `let` of the definition
  split
  · exact List.prefix_refl _
  · exact List.prefix_append _ _

theorem nextPrefix_extends (p : Prefix) (ot al : Name) (algo : Casing) : p <+: nextPrefix p ot al algo := by
  unfold nextPrefix
  exact List.IsPrefix.trans (typeNameParts_extends p ot algo) (List.prefix_append _ _)

theorem walk_foldl_extends (algo : Casing) (steps : List (Name × Name)) (p : Prefix) :
    p <+: steps.foldl (fun p s => nextPrefix p s.1 s.2 algo) p := by
  induction steps generalizing p with
  | nil => exact List.prefix_refl _
  | cons s rest ih => exact (nextPrefix_extends p s.1 s.2 algo).trans (ih _)

theorem walk_extends (root : Name) (steps : List (Name × Name)) (algo : Casing) : [root] <+: walk root steps algo :=
  walk_foldl_extends algo steps [root]

theorem root_prefix_join {root : Name} {steps : List (Name × Name)} {algo : Casing} {q : Prefix}
    (h : walk root steps algo <+: q) : root <+: joinPrefix q := by
  obtain ⟨r, rfl⟩ := (walk_extends root steps algo).trans h
  simp [joinPrefix]

theorem makeTypeName_starts_with_root (root : Name) (steps : List (Name × Name)) (tn : Name) (algo : Casing) :
    root <+: makeTypeName (walk root steps algo) tn algo :=
  root_prefix_join (typeNameParts_extends _ tn algo)

theorem makeLongTypeName_starts_with_root (root : Name) (steps : List (Name × Name)) (tn : Name) (algo : Casing) :
    root <+: makeLongTypeName (walk root steps algo) tn algo :=
  root_prefix_join (List.prefix_append _ _)

theorem makeTypeName_ends_with_type (p : Prefix) (tn : Name) (algo : Casing) (hp : 1 < p.length) :
    applyCasing tn algo true <:+ makeTypeName p tn algo := by
  unfold makeTypeName typeNameParts
  simp only
  split
  · next h => simpa [isSuffixOf, Nat.not_le_of_gt hp] using h
  · simp [joinPrefix]

/-- shortening changes nothing but the repeated type name: the short name is the long one, or the long one minus
    the type name it would repeat -/
theorem makeTypeName_short_or_long (p : Prefix) (tn : Name) (algo : Casing) :
    makeTypeName p tn algo = makeLongTypeName p tn algo ∨
    makeTypeName p tn algo ++ applyCasing tn algo true = makeLongTypeName p tn algo := by
  unfold makeTypeName makeLongTypeName typeNameParts
  simp only
  split
  · right; simp [joinPrefix]
  · left; rfl

end Genq.Names
