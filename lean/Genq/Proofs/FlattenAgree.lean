/-
The two models of goStructType.FlattenedFields agree.

Model/Types.lean `flattenLoop` transcribes the queue loop of generate/types.go literally (pop the front; an embedded
struct's fields go to the BACK of the queue; the first field seen for a JSON name wins).  Model/Codec.lean `winners`
describes the same choice declaratively: order all fields of the struct and of its embedded structs by embedding
depth, keeping declaration (pre-)order within a depth, and let the first JSON name win.  This file proves, for every
forest of fields (any nesting, any repetition of names), that both select the same JSON names in the same order —
breadth-first queue order IS "by depth, then declaration order".

The proof goes level by level.  A queue `q` at depth `d` has ordinary fields `plains q` and, behind them, the next
level `kids q`.  Popping all of `q` emits `plains q` and leaves `kids q` in the queue (`loopN_level`); the depth sort
of all entries below `q` lists `plains q` and then the depth sort of all entries below `kids q` (`sortDepth_level`:
walking `q` from the front, an ordinary field is minimal and stays in front, the entries of an embedded struct are
deeper and are sorted in behind the ordinary fields).  "First name wins" is carried along both sides as the loop
does it (`emit`).  The second part reads a struct type of Model/Codec.lean as such a forest (`toS`) and shows that
`encAll` lists its entries (`enc_keys_eq_flattenedFields`).
-/
import Genq.Model.Types
import Genq.Model.Codec
import Genq.Proofs.CodecSpec
namespace Genq.FlattenAgree

open Genq.Types (SField Name J flattenLoop flattenedFields sizeList)
open Genq.Codec (sortDepth dedup winners insDepth_front mem_sortDepth sortDepth_append foldr_insDepth_after sortDepth_map)

/-- JSON names of the ordinary fields of a queue, in order -/
def plains : List SField → List Name
  | [] => []
  | .plain _ j :: q => j :: plains q
  | .embed _ _ :: q => plains q

/-- the fields of the embedded structs of a queue, in order: the next level -/
def kids : List SField → List SField
  | [] => []
  | .plain _ _ :: q => kids q
  | .embed _ sub :: q => sub ++ kids q

/-- "first name wins" as the loop does it: one more name against the names seen and the names emitted so far -/
def emit (s : List Name × List Name) (j : Name) : List Name × List Name :=
  if s.1.contains j then s else (j :: s.1, s.2 ++ [j])

/-- the queue loop on JSON names only -/
def loopN : Nat → List SField → List Name × List Name → List Name × List Name
  | 0, _, s => s
  | _ + 1, [], s => s
  | fuel + 1, .embed _ sub :: q, s => loopN fuel (q ++ sub) s
  | fuel + 1, .plain _ j :: q, s => loopN fuel q (emit s j)

mutual
/-- all fields of a struct with their embedding depth, in declaration (pre-)order — what Codec.encAll lists -/
def entries : Nat → SField → List (Nat × String × J)
  | d, .plain _ j => [(d, j, .null)]
  | d, .embed _ sub => entriesL (d + 1) sub
def entriesL : Nat → List SField → List (Nat × String × J)
  | _, [] => []
  | d, f :: fs => entries d f ++ entriesL d fs
end

/-! ### one level of the queue loop -/

theorem emit_seen {s : List Name × List Name} {j : Name} (h : s.1.contains j = true) : emit s j = s :=
  if_pos h

theorem emit_new {s : List Name × List Name} {j : Name} (h : s.1.contains j = false) :
    emit s j = (j :: s.1, s.2 ++ [j]) :=
  if_neg (Bool.eq_false_iff.1 h)

theorem loopN_proj (fuel : Nat) (q : List SField) (seen : List Name) (acc : List (Name × Name)) :
    (flattenLoop fuel q seen acc).map (·.2) = (loopN fuel q (seen, acc.map (·.2))).2 := by
  -- the cases of the loop: no fuel; empty queue; an embedded struct; a name seen before; a new name
  fun_induction flattenLoop fuel q seen acc with
  | case1 => rfl
  | case2 => rfl
  | case3 fuel _ sub q seen acc ih => exact ih
  | case4 fuel g j q seen acc h ih => rw [ih, loopN, emit_seen h]
  | case5 fuel g j q seen acc h ih => rw [ih, List.map_append, loopN, emit_new (Bool.eq_false_iff.2 h)]; rfl

theorem loopN_nil (fuel : Nat) (s : List Name × List Name) : loopN fuel [] s = s := by
  cases fuel <;> rfl

/-- processing the front part `A` of the queue: its ordinary fields are emitted (first name wins), the fields of its
    embedded structs end up behind everything that was already waiting.  (The fuel reads `k + A.length` so that for
    `A = f :: A'` it is a successor by reduction and the loop takes its step.) -/
theorem loopN_front (A B : List SField) (k : Nat) (s : List Name × List Name) :
    loopN (k + A.length) (A ++ B) s = loopN k (B ++ kids A) ((plains A).foldl emit s) := by
  induction A generalizing B s with
  | nil => rw [kids, List.append_nil]; rfl
  | cons f A ih =>
    cases f with
    | plain _ j => exact ih B (emit s j)
    | embed _ sub =>
      -- `sub` goes behind `B`
      have h := ih (B ++ sub) s
      rw [← List.append_assoc, List.append_assoc B] at h
      exact h

theorem loopN_level (q : List SField) (k : Nat) (s : List Name × List Name) :
    loopN (k + q.length) q s = loopN k (kids q) ((plains q).foldl emit s) := by
  have h := loopN_front q [] k s
  rwa [List.append_nil] at h

theorem sizeList_append (a b : List SField) : sizeList (a ++ b) = sizeList a + sizeList b := by
  induction a with
  | nil => exact (Nat.zero_add _).symm
  | cons f a ih => rw [List.cons_append, sizeList, sizeList, ih, Nat.add_assoc]

/-- the pops a queue needs: one for every field of the front level, the rest for the levels behind it -/
theorem sizeList_kids (q : List SField) : sizeList q = sizeList (kids q) + q.length := by
  induction q with
  | nil => rfl
  | cons f q ih =>
    cases f with
    | plain _ _ =>
      show 1 + sizeList q = sizeList (kids q) + q.length + 1
      rw [← ih, Nat.add_comm]
    | embed _ sub =>
      show 1 + sizeList sub + sizeList q = sizeList (sub ++ kids q) + q.length + 1
      rw [sizeList_append, Nat.add_assoc (sizeList sub), ← ih, Nat.add_assoc 1, Nat.add_comm 1]

theorem sizeList_kids_lt (f : SField) (q : List SField) : sizeList (kids (f :: q)) < sizeList (f :: q) := by
  rw [sizeList_kids (f :: q)]; exact Nat.lt_add_of_pos_right (Nat.succ_pos _)

/-! ### one level of the depth sort -/

mutual
theorem depth_ge : ∀ (f : SField) (d : Nat) (e : Nat × String × J), e ∈ entries d f → d ≤ e.1
  | .plain _ j, d, e, h => by cases List.mem_singleton.1 h; exact Nat.le_refl _
  | .embed _ sub, d, e, h => Nat.le_of_succ_le (depth_geL sub (d + 1) e h)
theorem depth_geL : ∀ (q : List SField) (d : Nat) (e : Nat × String × J), e ∈ entriesL d q → d ≤ e.1
  | [], _, _, h => absurd h List.not_mem_nil
  | f :: fs, d, e, h => (List.mem_append.1 h).elim (depth_ge f d e) (depth_geL fs d e)
end

theorem entriesL_plain (d : Nat) (g j : Name) (q : List SField) :
    entriesL d (.plain g j :: q) = (d, j, .null) :: entriesL d q := rfl

theorem entriesL_embed (d : Nat) (n : Name) (sub q : List SField) :
    entriesL d (.embed n sub :: q) = entriesL (d + 1) sub ++ entriesL d q := rfl

theorem entriesL_append (a b : List SField) (d : Nat) : entriesL d (a ++ b) = entriesL d a ++ entriesL d b := by
  induction a with
  | nil => rfl
  | cons f a ih => rw [List.cons_append, entriesL, entriesL, ih, List.append_assoc]

theorem sortDepth_level (q : List SField) (d : Nat) :
    sortDepth (entriesL d q) = (plains q).map (fun j => (d, j, J.null)) ++ sortDepth (entriesL (d + 1) (kids q)) := by
  induction q with
  | nil => rfl
  | cons f q ih =>
    cases f with
    | plain _ j =>
      -- an ordinary field is at the least depth there is: it stays in front
      rw [entriesL_plain, sortDepth, insDepth_front _ _ fun x hx => depth_geL q d x ((mem_sortDepth x _).1 hx), ih]
      rfl
    | embed _ sub =>
      -- what the embedded struct contributes is deeper than the ordinary fields: it is sorted in behind them
      rw [entriesL_embed, sortDepth_append, ih, foldr_insDepth_after, ← sortDepth_append, ← entriesL_append]
      · rfl
      · intro e he x hx
        obtain ⟨j, _, rfl⟩ := List.mem_map.1 hx
        exact depth_geL sub (d + 1) e he

theorem sortDepth_level_names (q : List SField) (d : Nat) :
    (sortDepth (entriesL d q)).map (·.2.1) = plains q ++ (sortDepth (entriesL (d + 1) (kids q))).map (·.2.1) := by
  rw [sortDepth_level, List.map_append, List.map_map]
  exact congrArg (· ++ _) (List.map_id'' (fun _ => rfl) _)

/-! ### level by level, the loop emits what the sort lists -/

/-- for any spare fuel `k`, any starting depth `d` (of the entries only the names are kept) and any loop state `s` -/
theorem loopN_sortDepth : ∀ (q : List SField) (k d : Nat) (s : List Name × List Name),
    loopN (sizeList q + k) q s = ((sortDepth (entriesL d q)).map (·.2.1)).foldl emit s
  | [], k, d, s => loopN_nil _ s
  | f :: q, k, d, s => by
    rw [sizeList_kids (f :: q), Nat.add_right_comm, loopN_level, loopN_sortDepth (kids (f :: q)) k (d + 1),
      sortDepth_level_names (f :: q) d, List.foldl_append]
termination_by q => sizeList q
decreasing_by exact sizeList_kids_lt f q

theorem dedup_emit (l : List (Nat × String × J)) (seen acc : List Name) :
    ((l.map (·.2.1)).foldl emit (seen, acc)).2 = acc ++ (dedup l seen).map (·.1) := by
  induction l generalizing seen acc with
  | nil => exact (List.append_nil acc).symm
  | cons e rest ih =>
    rw [List.map_cons, List.foldl_cons, dedup]
    cases h : seen.contains e.2.1 with
    | true => rw [emit_seen h, if_pos rfl]; exact ih seen acc
    | false => rw [emit_new h, if_neg Bool.false_ne_true, ih, List.append_assoc]; rfl

/-- **the two models of FlattenedFields select the same JSON names in the same order** -/
theorem flattenedFields_eq_winners (fields : List SField) :
    (flattenedFields fields).map (·.2) = (winners (entriesL 0 fields)).map (·.1) := by
  rw [flattenedFields, loopN_proj, loopN_sortDepth fields 1 0, winners]
  exact dedup_emit _ [] []

/-! ### … and the entries are what Codec.encAll lists for a struct type -/

open Genq.Codec (Ty Flds Val encAll encEmb WFFields WFEmb)

mutual
/-- a struct type of Model/Codec.lean as the forest FlattenedFields walks -/
def toS : Flds → List SField
  | .nil => []
  | .cons n emb t rest => (if emb then [SField.embed n (toSEmb t)] else [SField.plain n n]) ++ toS rest
def toSEmb : Ty → List SField
  | .struct fs => toS fs
  | _ => []
end

/-- (depth, name) of an entry -/
def key (e : Nat × String × J) : Nat × String := (e.1, e.2.1)

/-- which names win depends on the (depth, name) pairs only -/
theorem winners_names_of_keys (l1 l2 : List (Nat × String × J)) (h : l1.map key = l2.map key) :
    (winners l1).map (·.1) = (winners l2).map (·.1) := by
  have e : ∀ l, (winners l).map (·.1) =
      (((sortDepth ((l.map key).map fun k => (k.1, k.2, J.null))).map (·.2.1)).foldl emit ([], [])).2 := fun l => by
    rw [List.map_map, sortDepth_map ((fun k => (k.1, k.2, J.null)) ∘ key) (fun _ => rfl), List.map_map]
    exact (dedup_emit (sortDepth l) [] []).symm
  rw [e, e, h]

mutual
theorem encAll_keys : ∀ (fs : Flds) (vs : List Val) (d : Nat), WFFields fs vs →
    (encAll fs vs d).map key = (entriesL d (toS fs)).map key
  | .nil => fun vs _ h => by cases vs with | nil => rfl | cons _ _ => exact h.elim
  | .cons n emb t rest => fun vs d h => by
    cases vs with
    | nil => exact h.elim
    | cons v vs =>
      rw [Codec.encAll_cons, List.map_append, encAll_keys rest vs d h.2]
      cases emb with
      | false => rfl
      | true => rw [if_pos rfl, encEmb_keys t v (d + 1) h.1, ← List.map_append]; rfl
theorem encEmb_keys : ∀ (t : Ty) (v : Val) (d : Nat), WFEmb t v →
    (encEmb t v d).map key = (entriesL d (toSEmb t)).map key
  | .struct fs => fun v d h => by
    cases v with
    | struct ws => exact encAll_keys fs ws d h
    | _ => exact h.elim
  | .leaf _ | .ptr _ | .slice _ | .iface _ => fun _ _ h => h.elim
end

/-- **for every struct type and every well-formed value of it: the keys MarshalJSON writes (Codec.enc: `winners`
    of all fields by depth) are exactly, and in the order of, what the literal queue loop of FlattenedFields selects** -/
theorem enc_keys_eq_flattenedFields (fs : Flds) (vs : List Val) (h : WFFields fs vs) :
    (winners (encAll fs vs 0)).map (·.1) = (flattenedFields (toS fs)).map (·.2) := by
  rw [flattenedFields_eq_winners]
  exact winners_names_of_keys _ _ (encAll_keys fs vs 0 h)

end Genq.FlattenAgree
