/-
Termination of the input-object walk (Model/InputClosure.lean): with fuel above the number of input types not yet
in the type map the walk never runs out of fuel, and the type map only grows.
-/
import Genq.Model.InputClosure
namespace Genq.InputClosure

theorem remaining_le (U done : List String) : remaining U done ≤ U.length :=
  List.length_filter_le _ _

theorem remaining_mono {U done d : List String} (h : done ⊆ d) : remaining U d ≤ remaining U done := by
  simp only [remaining, ← List.countP_eq_length_filter]
  refine List.countP_mono_left fun x _ hx => ?_
  simp only [Bool.not_eq_true', List.contains_eq_mem, decide_eq_false_iff_not] at hx ⊢
  exact fun hd => hx (h hd)

/-- what remains after `n` is entered is what remained before without `n`, and `n` was among it -/
theorem remaining_cons_lt {U done : List String} {n : String} (hn : n ∈ U) (hd : done.contains n = false) :
    remaining U (n :: done) < remaining U done := by
  have : (fun x => !(n :: done).contains x) = fun x => x != n && !done.contains x :=
    funext fun x => by rw [List.contains_cons, Bool.not_or]; rfl
  rw [remaining, this, ← List.filter_filter]
  refine List.length_filter_lt_length_iff_exists.2 ⟨n, List.mem_filter.2 ⟨hn, ?_⟩, ?_⟩
  · rw [hd]; rfl
  · simp

theorem visit_ok (S : InSchema) (U : List String) (hU : ∀ n ∈ U, ∀ f ∈ S.fieldsOf n, f ∈ U) :
    ∀ (fuel : Nat) (n : String) (done : List String), n ∈ U → remaining U done < fuel →
      ∃ d, visit S fuel n done = some d ∧ done ⊆ d ∧ n ∈ d := by
  intro fuel
  induction fuel with
  | zero => exact fun _ _ _ h => absurd h (Nat.not_lt_zero _)
  | succ fuel ih =>
    intro n done hn hr
    rw [visit]
    cases hc : done.contains n with
    | true => exact ⟨done, rfl, fun _ hx => hx, List.contains_iff_mem.1 hc⟩
    | false =>
      -- the fields in turn, each from the type map the one before has left: it has only grown, so still fewer
      -- than `fuel` types remain
      have fields : ∀ fs : List String, (∀ f ∈ fs, f ∈ U) → ∀ d, remaining U d < fuel →
          ∃ d', fs.foldlM (fun d f => visit S fuel f d) d = some d' ∧ d ⊆ d' := by
        intro fs
        induction fs with
        | nil => exact fun _ d _ => ⟨d, rfl, fun _ hx => hx⟩
        | cons f fs ihf =>
          intro hfs d hd
          obtain ⟨d1, h1, hsub1, _⟩ := ih f d (hfs f List.mem_cons_self) hd
          obtain ⟨d2, h2, hsub2⟩ := ihf (fun g hg => hfs g (List.mem_cons_of_mem _ hg)) d1
            (Nat.lt_of_le_of_lt (remaining_mono hsub1) hd)
          exact ⟨d2, by rw [List.foldlM_cons, h1]; exact h2, hsub1.trans hsub2⟩
      obtain ⟨d', hd', hsub⟩ := fields (S.fieldsOf n) (hU n hn) (n :: done)
        (Nat.lt_of_lt_of_le (remaining_cons_lt hn hc) (Nat.le_of_lt_succ hr))
      exact ⟨d', hd', fun _ hx => hsub (List.mem_cons_of_mem _ hx), hsub List.mem_cons_self⟩

end Genq.InputClosure
