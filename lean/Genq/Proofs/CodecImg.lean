/-
Every value the model's decoder produces survives the round trip up to the F-02 normalisation — C06.

`dec t j = ok v → dec t (enc t v) = ok (norm t v)` for EVERY JSON input `j`, for every response type tree that
  * has no fold twins                       (`noFoldTwins`, decidable — the excluded point is known finding F-02t),
  * gives one Go type to one response key   (`TyOK`: `SameKeyTy` of every struct closure — excluded point: F-06k),
  * types every implementation's `__typename` field as a string (`TyOK`; what genqlient always generates),
where `norm` replaces a nil list handled through json.RawMessage by an empty one (F-02: what the generated
MarshalJSON/UnmarshalJSON pair does to it) and changes nothing else.  So in the model the three known findings are
the ONLY ways a decoded value can fail to come back.
-/
import Genq.Proofs.CodecRT
import Genq.Proofs.CodecFaithful
namespace Genq.Codec

open Genq.Types (J)

/-! ### marshaling does not see the normalisation

In each case below only one form of value is touched by `norm`; on the others both sides compute to the same. -/

abbrev ENt (t : Ty) : Prop := ∀ v, enc t (norm t v) = enc t v
abbrev ENs (t : Ty) : Prop := ∀ v, encSpecial t (normSpecial t v) = encSpecial t v
abbrev ENf (fs : Flds) : Prop := ∀ vs d, encAll fs (normFields fs vs) d = encAll fs vs d
abbrev ENe (t : Ty) : Prop := ∀ v d, encEmb t (norm t v) d = encEmb t v d
abbrev ENi (impls : Impls) : Prop := ∀ tn v, encImpl impls tn (normImpl impls tn v) = encImpl impls tn v
abbrev ENh (t : Ty) : Prop := ∀ tn v, encHead t tn (norm t v) = encHead t tn v

theorem map_norm_enc {f : Val → J} {g : Val → Val} (ih : ∀ v, f (g v) = f v) (vs : List Val) :
    J.arr ((vs.map g).map f) = .arr (vs.map f) := by
  rw [List.map_map]
  exact congrArg J.arr (List.map_congr_left fun x _ => ih x)

theorem en_leaf (k : Leaf) : ENt (.leaf k) := fun v => by cases v <;> rfl
theorem en_struct (fs : Flds) (ihF : ENf fs) : ENt (.struct fs) := fun v => by
  cases v with
  | struct vs => exact congrArg (fun l => J.obj (winners l)) (ihF vs 0)
  | _ => rfl
theorem en_ptr (t : Ty) (ih : ENt t) : ENt (.ptr t) := fun v => by
  cases v with
  | ptr v => exact ih v
  | _ => rfl
theorem en_slice (t : Ty) (ih : ENt t) : ENt (.slice t) := fun v => by
  cases v with
  | slice vs => exact map_norm_enc ih vs
  | _ => rfl
theorem en_iface (impls : Impls) (ihI : ENi impls) : ENt (.iface impls) := fun v => by
  cases v with
  | iface tn v => exact ihI tn v
  | _ => rfl
theorem ens_slice (t : Ty) (ih : ENs t) : ENs (.slice t) := fun v => by
  cases v with
  | slice vs => exact map_norm_enc ih vs
  | _ => rfl
theorem ens_of {t : Ty} (hs : isSliceTy t = false) (ih : ENt t) : ENs t := fun v => by
  rw [normSpecial_eq_norm hs, encSpecial_eq_enc hs, encSpecial_eq_enc hs]
  exact ih v
theorem ene_struct (fs : Flds) (ihF : ENf fs) : ENe (.struct fs) := fun v d => by
  cases v with
  | struct ws => exact ihF ws d
  | _ => rfl
theorem enh_struct (fs : Flds) (ihF : ENf fs) : ENh (.struct fs) := fun tn v => by
  cases v with
  | struct vs =>
    exact congrArg (fun l => J.obj (("__typename", .str tn) :: (winners l).filter fun kv => kv.1 != "__typename")) (ihF vs 0)
  | _ => rfl

theorem enf_cons (n : String) (emb : Bool) (t : Ty) (rest : Flds) (ihE : ENe t) (ihS : ENs t) (ihT : ENt t) (ihR : ENf rest) :
    ENf (.cons n emb t rest) := fun vs d => by
  cases vs with
  | nil => rfl
  | cons v vs =>
    show encAll _ ((if emb then norm t v else if special t then normSpecial t v else norm t v) :: normFields rest vs) d = _
    rw [encAll_cons, encAll_cons, ihR vs d]
    refine congrArg (· ++ _) ?_
    unfold fieldEnc
    cases emb
    · cases special t
      · exact congrArg (fun x => [(d, n, x)]) (ihT v)
      · exact congrArg (fun x => [(d, n, x)]) (ihS v)
    · exact ihE v (d + 1)

theorem eni_cons (n : String) (t : Ty) (rest : Impls) (ihH : ENh t) (ihR : ENi rest) : ENi (.cons n t rest) := fun tn v => by
  by_cases hn : n = tn
  · subst hn; rw [normImpl_head, encImpl_head, encImpl_head]; exact ihH n v
  · rw [normImpl_skip hn, encImpl_skip hn, encImpl_skip hn]; exact ihR tn v

mutual
theorem enT : ∀ t : Ty, ENt t
  | .leaf k => en_leaf k
  | .struct fs => en_struct fs (enF fs)
  | .ptr t => en_ptr t (enT t)
  | .slice t => en_slice t (enT t)
  | .iface impls => en_iface impls (enI impls)
theorem enS : ∀ t : Ty, ENs t
  | .slice t => ens_slice t (enS t)
  | .leaf k => ens_of rfl (en_leaf k)
  | .struct fs => ens_of rfl (en_struct fs (enF fs))
  | .ptr t => ens_of rfl (en_ptr t (enT t))
  | .iface impls => ens_of rfl (en_iface impls (enI impls))
theorem enE : ∀ t : Ty, ENe t
  | .struct fs => ene_struct fs (enF fs)
  | .leaf _ | .ptr _ | .slice _ | .iface _ => fun _ _ => rfl
theorem enH : ∀ t : Ty, ENh t
  | .struct fs => enh_struct fs (enF fs)
  | .leaf _ | .ptr _ | .slice _ | .iface _ => fun _ _ => rfl
theorem enF : ∀ fs : Flds, ENf fs
  | .nil => fun _ _ => rfl
  | .cons n emb t rest => enf_cons n emb t rest (enE t) (enS t) (enT t) (enF rest)
theorem enI : ∀ impls : Impls, ENi impls
  | .nil => fun _ _ => rfl
  | .cons n t rest => eni_cons n t rest (enH t) (enI rest)
end

/-! ### a decoded-shape value, normalised, is well-formed in the strict sense -/

abbrev WNt (t : Ty) : Prop := ∀ v, WFn t v → WF t (norm t v)
abbrev WNs (t : Ty) : Prop := ∀ v, WFnSpecial t v → WFSpecial t (normSpecial t v)
abbrev WNf (fs : Flds) : Prop := ∀ vs, WFnFields fs vs → WFFields fs (normFields fs vs)
abbrev WNe (t : Ty) : Prop := ∀ v, WFnEmb t v → WFEmb t (norm t v)
abbrev WNi (impls : Impls) : Prop := ∀ tn v, WFnImpl impls tn v → WFImpl impls tn (normImpl impls tn v)
abbrev WNh (t : Ty) : Prop := ∀ tn v, WFnImplHead t tn v → WFImplHead t tn (norm t v)

theorem wn_leaf (k : Leaf) : WNt (.leaf k) := fun v h => by cases v <;> exact h
theorem wn_struct (fs : Flds) (ihF : WNf fs) : WNt (.struct fs) := fun v h => by
  cases v with
  | struct vs => exact ⟨ihF vs h.1, (enF fs vs 0).symm ▸ h.2⟩
  | _ => exact h.elim
theorem wn_ptr (t : Ty) (ih : WNt t) : WNt (.ptr t) := fun v h => by
  cases v with
  | nilPtr => trivial
  | ptr w => exact ⟨ih w h.1, (enT t w).symm ▸ h.2⟩
  | _ => exact h.elim
theorem wn_slice (t : Ty) (ih : WNt t) : WNt (.slice t) := fun v h => by
  cases v with
  | nilSlice => trivial
  | slice vs => exact List.forall_mem_map.2 fun x hx => ih x (h x hx)
  | _ => exact h.elim
theorem wn_iface (impls : Impls) (ihI : WNi impls) : WNt (.iface impls) := fun v h => by
  cases v with
  | nilIface => trivial
  | iface tn w => exact ⟨h.1, ihI tn w h.2⟩
  | _ => exact h.elim
theorem wns_slice (t : Ty) (ih : WNs t) : WNs (.slice t) := fun v h => by
  cases v with
  | nilSlice => exact fun _ hw => nomatch hw
  | slice vs => exact List.forall_mem_map.2 fun x hx => ih x (h x hx)
  | _ => exact h.elim
theorem wns_of {t : Ty} (hs : isSliceTy t = false) (ih : WNt t) : WNs t := fun v h => by
  rw [normSpecial_eq_norm hs, WFSpecial_eq_WF hs]
  exact ih v (WFnSpecial_eq_WFn hs v ▸ h)
theorem wne_struct (fs : Flds) (ihF : WNf fs) : WNe (.struct fs) := fun v h => by
  cases v with
  | struct ws => exact ihF ws h
  | _ => exact h.elim
theorem wnh_struct (fs : Flds) (ihF : WNf fs) : WNh (.struct fs) := fun tn v h => by
  cases v with
  | struct vs => exact ⟨ihF vs h.1, (enF fs vs 0).symm ▸ h.2⟩
  | _ => exact h.elim

theorem wnf_cons (n : String) (emb : Bool) (t : Ty) (rest : Flds) (ihE : WNe t) (ihS : WNs t) (ihT : WNt t) (ihR : WNf rest) :
    WNf (.cons n emb t rest) := fun vs h => by
  cases vs with
  | nil => exact h.elim
  | cons v vs =>
    refine ⟨?_, ihR vs h.2⟩
    have h := h.1
    revert h
    cases emb
    · cases special t
      · exact ihT v
      · exact ihS v
    · exact ihE v

theorem wni_cons (n : String) (t : Ty) (rest : Impls) (ihH : WNh t) (ihR : WNi rest) : WNi (.cons n t rest) := fun tn v h => by
  rcases h with ⟨rfl, h⟩ | ⟨hn, h⟩
  · exact (normImpl_head n t rest v).symm ▸ .inl ⟨rfl, ihH n v h⟩
  · exact (normImpl_skip hn t rest v).symm ▸ .inr ⟨hn, ihR tn v h⟩

mutual
theorem wnT : ∀ t : Ty, WNt t
  | .leaf k => wn_leaf k
  | .struct fs => wn_struct fs (wnF fs)
  | .ptr t => wn_ptr t (wnT t)
  | .slice t => wn_slice t (wnT t)
  | .iface impls => wn_iface impls (wnI impls)
theorem wnS : ∀ t : Ty, WNs t
  | .slice t => wns_slice t (wnS t)
  | .leaf k => wns_of rfl (wn_leaf k)
  | .struct fs => wns_of rfl (wn_struct fs (wnF fs))
  | .ptr t => wns_of rfl (wn_ptr t (wnT t))
  | .iface impls => wns_of rfl (wn_iface impls (wnI impls))
theorem wnE : ∀ t : Ty, WNe t
  | .struct fs => wne_struct fs (wnF fs)
  | .leaf _ | .ptr _ | .slice _ | .iface _ => fun _ h => h.elim
theorem wnH : ∀ t : Ty, WNh t
  | .struct fs => wnh_struct fs (wnF fs)
  | .leaf _ | .ptr _ | .slice _ | .iface _ => fun _ _ h => h.elim
theorem wnF : ∀ fs : Flds, WNf fs
  | .nil => fun vs h => by cases vs with | nil => trivial | cons _ _ => exact h.elim
  | .cons n emb t rest => wnf_cons n emb t rest (wnE t) (wnS t) (wnT t) (wnF rest)
theorem wnI : ∀ impls : Impls, WNi impls
  | .nil => fun _ _ h => h.elim
  | .cons n t rest => wni_cons n t rest (wnH t) (wnI rest)
end

/-- round trip of every value of decoded shape, up to the normalisation -/
theorem rtn (t : Ty) (v : Val) (h : WFn t v) (hf : noFoldTwins t = true) : dec t (enc t v) = .ok (norm t v) := by
  rw [← enT t v]
  exact rt t (norm t v) (wnT t v h) hf

/-! ### every decoded value has the decoded shape -/

theorem canon_zero (k : Leaf) : CanonLeaf k (zeroJ k) := by
  cases k
  case int => exact ⟨by decide, by decide⟩
  all_goals trivial

theorem decLeaf_img {k : Leaf} {j : J} {v : Val} (h : decLeaf k j = .ok v) :
    ∃ j', v = .leaf j' ∧ CanonLeaf k j' ∧ (isNull j = false → isNull j' = false) := by
  revert h
  -- the successful branches of `decLeaf`, in its order: null, string, integer token, then the five that keep `j`
  fun_cases decLeaf k j <;> intro h <;> cases h
  · exact ⟨_, rfl, canon_zero k, fun h => nomatch h⟩
  · exact ⟨_, rfl, trivial, id⟩
  · rename_i tok hi
    refine ⟨_, rfl, ?_, fun _ => rfl⟩
    by_cases h0 : tok = "-0"
    · rw [if_pos (beq_iff_eq.2 h0)]; exact ⟨by decide, by decide⟩
    · rw [if_neg (mt beq_iff_eq.1 h0)]; exact ⟨hi, beq_eq_false_iff_ne.2 h0⟩
  all_goals exact ⟨_, rfl, trivial, id⟩

abbrev ZEf (fs : Flds) : Prop := ∀ d, ∀ e ∈ encAll fs (zeros fs) d, ∃ t, (e.2.1, t) ∈ closureFields fs ∧ e.2.2 = fieldEnc t (zero t)
abbrev ZEe (t : Ty) : Prop := ∀ d, ∀ e ∈ encEmb t (zero t) d, ∃ t', (e.2.1, t') ∈ embFields t ∧ e.2.2 = fieldEnc t' (zero t')

mutual
theorem zeF : ∀ fs : Flds, ZEf fs
  | .nil => fun _ _ he => absurd he List.not_mem_nil
  | .cons n emb t rest => fun d e he => by
    rw [show zeros (.cons n emb t rest) = zero t :: zeros rest from rfl, encAll_cons] at he
    rcases List.mem_append.1 he with he | he
    · cases emb with
      | true =>
        obtain ⟨t', hm, hj⟩ := zeE t (d + 1) e he
        exact ⟨t', List.mem_append_left _ hm, hj⟩
      | false =>
        cases List.mem_singleton.1 he
        exact ⟨t, List.mem_append_left _ List.mem_cons_self, rfl⟩
    · obtain ⟨t', hm, hj⟩ := zeF rest d e he
      exact ⟨t', List.mem_append_right _ hm, hj⟩
theorem zeE : ∀ t : Ty, ZEe t
  | .struct fs => zeF fs
  | .leaf _ | .ptr _ | .slice _ | .iface _ => fun _ _ he => absurd he List.not_mem_nil
end

/-- entries that are a function of their (key, type) agree on a key when the key has one type -/
theorem coherent_of_fn {l : List (Nat × String × J)} {L : List (String × Ty)} (g : String → Ty → J) (hS : SameKeyTy L)
    (h : ∀ e ∈ l, ∃ t, (e.2.1, t) ∈ L ∧ e.2.2 = g e.2.1 t) : Coherent l := fun a ha b hb hab => by
  obtain ⟨t1, hm1, hj1⟩ := h a ha
  obtain ⟨t2, hm2, hj2⟩ := h b hb
  cases hS _ hm1 _ hm2 hab
  rw [hj1, hj2, hab]

theorem coherent_zero (fs : Flds) (hS : SameKeyTy (closureFields fs)) : Coherent (encAll fs (zeros fs) 0) :=
  coherent_of_fn (fun _ t => fieldEnc t (zero t)) hS (zeF fs 0)

theorem coherent_of_dec (fs : Flds) (o : List (String × J)) (vs : List Val) (hS : SameKeyTy (closureFields fs))
    (h : decFields fs o = .ok vs) : Coherent (encAll fs vs 0) :=
  coherent_of_fn (fun k t => match fieldDec t (lookup o k) with | .ok v => fieldEnc t v | .error _ => .null) hS fun e he => by
    obtain ⟨t, v, hm, hd, hj⟩ := faithfulFields fs o vs 0 h e he
    exact ⟨t, hm, by rw [hd]; exact hj⟩

theorem typename_entries (fs : Flds) (o : List (String × J)) (vs : List Val) (tn : String)
    (hT : TypenameIsStr (closureFields fs)) (hl : lookup o "__typename" = some (.str tn)) (h : decFields fs o = .ok vs) :
    ∀ e ∈ encAll fs vs 0, e.2.1 = "__typename" → e.2.2 = .str tn := fun e he hn => by
  obtain ⟨t, v, hm, hd, hj⟩ := faithfulFields fs o vs 0 h e he
  cases hT _ hm hn
  rw [hn, hl] at hd
  cases hd
  exact hj

/-! #### zero values are of decoded shape -/

abbrev ZWt (t : Ty) : Prop := TyOK t → WFn t (zero t)
abbrev ZWf (fs : Flds) : Prop := FldsOK fs → WFnFields fs (zeros fs)

theorem zero_special (t : Ty) (h : special t = true) : WFnSpecial t (zero t) := by
  cases t with
  | leaf k => exact canon_zero k
  | struct fs => cases h
  | _ => trivial

mutual
theorem zwT : ∀ t : Ty, ZWt t
  | .struct fs => fun h => ⟨zwF fs h.1, coherent_zero fs h.2⟩
  | .leaf k => fun _ => canon_zero k
  | .ptr _ | .slice _ | .iface _ => fun _ => trivial
theorem zwF : ∀ fs : Flds, ZWf fs
  | .nil => fun _ => trivial
  | .cons n emb t rest => fun h => by
    refine ⟨?_, zwF rest h.2.2⟩
    have hs := h.1
    have ht := zwT t h.2.1
    revert hs
    cases emb
    · intro _
      cases hsp : special t
      · exact ht
      · exact zero_special t hsp
    · intro hs
      cases t with
      | struct fs => exact ht.1
      | _ => cases hs rfl
end

/-! #### the decoder's image

The `isNull` conjuncts are what `WFn` asks of a value under a pointer (a non-null input gives a value whose encoding is
not null); `im_ptr` uses them, the other cases only pass them on. -/

abbrev IMt (t : Ty) : Prop := ∀ (j : J) (v : Val), TyOK t → dec t j = .ok v →
  WFn t v ∧ (isNull j = false → isNull (enc t v) = false)
abbrev IMs (t : Ty) : Prop := ∀ (j : J) (v : Val), TyOK t → decSpecial t j = .ok v → WFnSpecial t v
abbrev IMf (fs : Flds) : Prop := ∀ (o : List (String × J)) (vs : List Val), FldsOK fs → decFields fs o = .ok vs → WFnFields fs vs
abbrev IMe (t : Ty) : Prop := ∀ (o : List (String × J)) (v : Val), TyOK t → isStructTy t = true → dec t (.obj o) = .ok v → WFnEmb t v
abbrev IMi (impls : Impls) : Prop := ∀ (tn : String) (o : List (String × J)) (r : Val), ImplsOK impls →
  lookup o "__typename" = some (.str tn) → decImpl impls tn (.obj o) = .ok r →
  ∃ v, r = .iface tn v ∧ WFnImpl impls tn v ∧ isNull (encImpl impls tn v) = false
abbrev IMh (t : Ty) : Prop := ∀ (tn : String) (o : List (String × J)) (v : Val), ImplTyOK t →
  lookup o "__typename" = some (.str tn) → dec t (.obj o) = .ok v → WFnImplHead t tn v ∧ isNull (encHead t tn v) = false

theorem im_leaf (k : Leaf) : IMt (.leaf k) := fun j v _ h => by
  obtain ⟨j', rfl, hc, hn⟩ := decLeaf_img (k := k) h
  exact ⟨hc, hn⟩

theorem im_struct (fs : Flds) (ihF : IMf fs) : IMt (.struct fs) := fun j v hok h => by
  rcases dec_struct_ok h with ⟨rfl, rfl⟩ | ⟨o, vs, rfl, h1, rfl⟩
  · exact ⟨zwT (.struct fs) hok, fun h => nomatch h⟩
  · exact ⟨⟨ihF o vs hok.1 h1, coherent_of_dec fs o vs hok.2 h1⟩, fun _ => rfl⟩

theorem im_ptr (t : Ty) (ih : IMt t) : IMt (.ptr t) := fun j v hok h => by
  rcases dec_ptr_ok h with ⟨rfl, rfl⟩ | ⟨hj, w, h1, rfl⟩
  · exact ⟨trivial, fun h => nomatch h⟩
  · have ⟨hw, hn⟩ := ih j w hok h1
    exact ⟨⟨hw, hn hj⟩, fun _ => hn hj⟩

theorem im_slice (t : Ty) (ih : IMt t) : IMt (.slice t) := fun j v hok h => by
  rcases dec_slice_ok h with ⟨rfl, rfl⟩ | ⟨xs, vs, rfl, h1, rfl⟩
  · exact ⟨trivial, fun h => nomatch h⟩
  · refine ⟨fun w hw => ?_, fun _ => rfl⟩
    obtain ⟨x, _, hx⟩ := mapM_ok_inv h1 w hw
    exact (ih x w hok hx).1

theorem im_iface (impls : Impls) (ihI : IMi impls) : IMt (.iface impls) := fun j v hok h => by
  rcases dec_iface_ok h with ⟨rfl, rfl⟩ | ⟨o, tn, rfl, ht, hne, h1⟩
  · exact ⟨trivial, fun h => nomatch h⟩
  · obtain ⟨w, rfl, hw, hn⟩ := ihI tn o v hok (typenameOf_lookup ht hne) h1
    exact ⟨⟨hne, hw⟩, fun _ => hn⟩

theorem ims_slice (t : Ty) (ih : IMs t) : IMs (.slice t) := fun j v hok h => by
  rcases decSpecial_slice_ok h with ⟨rfl, rfl⟩ | ⟨xs, vs, rfl, h1, rfl⟩
  · exact fun _ hw => nomatch hw
  · intro w hw
    obtain ⟨x, _, hx⟩ := mapM_ok_inv h1 w hw
    exact ih x w hok hx

theorem ims_of {t : Ty} (hs : isSliceTy t = false) (ih : IMt t) : IMs t := fun j v hok h =>
  WFnSpecial_eq_WFn hs v ▸ (ih j v hok (decSpecial_eq_dec hs j ▸ h)).1

theorem ime_struct (fs : Flds) (ihF : IMf fs) : IMe (.struct fs) := fun o v hok _ h => by
  obtain ⟨ws, h1, rfl⟩ := dec_struct_obj_ok h
  exact ihF o ws hok.1 h1

theorem imh_struct (fs : Flds) (ihF : IMf fs) : IMh (.struct fs) := fun tn o v hok hl h => by
  obtain ⟨vs, h1, rfl⟩ := dec_struct_obj_ok h
  exact ⟨⟨ihF o vs hok.1 h1, coherent_of_dec fs o vs hok.2.1 h1, typename_entries fs o vs tn hok.2.2 hl h1⟩, rfl⟩

theorem im_field {t : Ty} (ihS : IMs t) (ihT : IMt t) (hok : TyOK t) {x : Option J} {v : Val} (h : fieldDec t x = .ok v) :
    if special t then WFnSpecial t v else WFn t v := by
  unfold fieldDec at h
  revert h
  cases special t
  · intro h
    cases x with
    | none => cases h; exact zwT t hok
    | some j => exact (ihT j v hok h).1
  · exact ihS _ v hok

theorem imf_cons (n : String) (emb : Bool) (t : Ty) (rest : Flds) (ihE : IMe t) (ihS : IMs t) (ihT : IMt t) (ihR : IMf rest) :
    IMf (.cons n emb t rest) := fun o vs hok h => by
  obtain ⟨v, ws, h1, h2, rfl⟩ := decFields_cons_ok.1 h
  refine ⟨?_, ihR o ws hok.2.2 h2⟩
  have hs := hok.1
  revert h1 hs
  cases emb
  · exact fun h1 _ => im_field ihS ihT hok.2.1 h1
  · exact fun h1 hs => ihE o v hok.2.1 (hs rfl) h1

theorem imi_cons (n : String) (t : Ty) (rest : Impls) (ihH : IMh t) (ihR : IMi rest) : IMi (.cons n t rest) :=
  fun tn o r hok hl h => by
    rcases decImpl_cons_ok h with ⟨rfl, v, h1, rfl⟩ | ⟨hn, h1⟩
    · have ⟨hw, hnn⟩ := ihH n o v hok.1 hl h1
      exact ⟨v, rfl, .inl ⟨rfl, hw⟩, (encImpl_head n t rest v).symm ▸ hnn⟩
    · obtain ⟨v, rfl, hw, hnn⟩ := ihR tn o r hok.2 hl h1
      exact ⟨v, rfl, .inr ⟨hn, hw⟩, (encImpl_skip hn t rest v).symm ▸ hnn⟩

mutual
theorem imT : ∀ t : Ty, IMt t
  | .leaf k => im_leaf k
  | .struct fs => im_struct fs (imF fs)
  | .ptr t => im_ptr t (imT t)
  | .slice t => im_slice t (imT t)
  | .iface impls => im_iface impls (imI impls)
theorem imS : ∀ t : Ty, IMs t
  | .slice t => ims_slice t (imS t)
  | .leaf k => ims_of rfl (im_leaf k)
  | .struct fs => ims_of rfl (im_struct fs (imF fs))
  | .ptr t => ims_of rfl (im_ptr t (imT t))
  | .iface impls => ims_of rfl (im_iface impls (imI impls))
theorem imE : ∀ t : Ty, IMe t
  | .struct fs => ime_struct fs (imF fs)
  | .leaf _ | .ptr _ | .slice _ | .iface _ => fun _ _ _ hs _ => nomatch hs
theorem imH : ∀ t : Ty, IMh t
  | .struct fs => imh_struct fs (imF fs)
  | .leaf _ | .ptr _ | .slice _ | .iface _ => fun _ _ _ hok _ _ => hok.elim
theorem imF : ∀ fs : Flds, IMf fs
  | .nil => fun _ _ _ h => by cases h; trivial
  | .cons n emb t rest => imf_cons n emb t rest (imE t) (imS t) (imT t) (imF rest)
theorem imI : ∀ impls : Impls, IMi impls
  | .nil => fun _ _ _ _ _ h => nomatch h
  | .cons n t rest => imi_cons n t rest (imH t) (imI rest)
end

/-- **every decoded value survives the round trip up to the F-02 normalisation** -/
theorem roundtrip_of_decoded (t : Ty) (j : J) (v : Val) (hok : TyOK t) (hf : noFoldTwins t = true)
    (h : dec t j = .ok v) : dec t (enc t v) = .ok (norm t v) :=
  rtn t v (imT t j v hok h).1 hf

end Genq.Codec
