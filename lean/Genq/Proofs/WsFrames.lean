/-
C15: monotonicity of the frame logs and freshness of subscription ids, for every event list.
-/
import Genq.Proofs.WsPrim
namespace Genq.Ws

/-- what one step may do to the logs: append, never rewrite; subscription ids handed out are the
    entry indices -/
structure LogStep (w w' : World) : Prop where
  written : ∃ l, w'.written = w.written ++ l
  frames : ∃ l, w'.frames = w.frames ++ l ∧
    ((l = [] ∧ w'.subs.length = w.subs.length) ∨
     (∃ i, l = [.complete i] ∧ w'.subs.length = w.subs.length) ∨
     (l = [.close] ∧ w'.subs.length = w.subs.length) ∨
     (l = [.subscribe w.subs.length] ∧ w'.subs.length = w.subs.length + 1))

theorem LogStep.of_eq {w w' : World} (h1 : w'.written = w.written) (h2 : w'.frames = w.frames)
    (h3 : w'.subs.length = w.subs.length) : LogStep w w' :=
  ⟨⟨[], by simp [h1]⟩, [], by simp [h2], .inl ⟨rfl, h3⟩⟩

theorem Eff.logStep (f : Flags) (w : World) (e : Eff) : LogStep w (e.apply f w) := by
  cases e with
  | wrote fr => exact ⟨⟨[fr], rfl⟩, [], (List.append_nil _).symm, .inl ⟨rfl, rfl⟩⟩
  | complete i => exact ⟨⟨[], (List.append_nil _).symm⟩, [.complete i], rfl, .inr (.inl ⟨i, rfl, rfl⟩)⟩
  | close => exact ⟨⟨[], (List.append_nil _).symm⟩, [.close], rfl, .inr (.inr (.inl ⟨rfl, rfl⟩))⟩
  | _ => exact .of_eq rfl rfl (Eff.apply_subs_length ..)

theorem LogStep.setCall {w w' : World} (h : LogStep w w') (c : Nat) (k : Call) : LogStep w (setCall w' c k) :=
  ⟨h.written, h.frames⟩

theorem step_logStep {f : Flags} {w w' : World} {e : Ev} (hs : step f w e = some w') : LogStep w w' := by
  cases step_kind hs with
  | spawn k ss l hw hl =>
    subst hw
    refine ⟨⟨[], (List.append_nil _).symm⟩, l, rfl, ?_⟩
    rcases hl with ⟨rfl, h | ⟨i, h⟩ | h⟩ | ⟨rfl, h⟩
    · exact .inl ⟨h, by simp⟩
    · exact .inr (.inl ⟨i, h, by simp⟩)
    · exact .inr (.inr (.inl ⟨h, by simp⟩))
    · exact .inr (.inr (.inr ⟨h, by simp⟩))
  | call c b _ hc =>
    obtain ⟨_, e, k', _, _, rfl⟩ := stepCall_some hc
    exact (e.logStep f w).setCall c k'
  | complete i _ hw => subst hw; exact .of_eq rfl rfl (Eff.apply_subs_length ..)
  | take _ _ _ _ _ _ hw | recv _ _ _ _ _ hw => subst hw; exact .of_eq rfl rfl (by simp)
  | reader hm => exact .of_eq (by rw [hm.eq]) (by rw [hm.eq]) (by rw [hm.eq])

def subIds : List Frame → List SubId
  | [] => []
  | .subscribe i :: fs => i :: subIds fs
  | _ :: fs => subIds fs

theorem subIds_append (a b : List Frame) : subIds (a ++ b) = subIds a ++ subIds b := by
  induction a with
  | nil => rfl
  | cons f fs ih => cases f <;> simp [subIds, ih]

/-- the log invariant: the successful writes start with connection_init, and the subscribe frames
    carry the ids 0, 1, 2, … in order -/
def LogInv (w : World) : Prop :=
  (∃ l, w.written = .init :: l) ∧ subIds w.frames = List.range w.subs.length

theorem LogStep.logInv {w w' : World} (hl : LogStep w w') (h : LogInv w) : LogInv w' := by
  obtain ⟨⟨l0, hw⟩, hf⟩ := h
  obtain ⟨⟨l1, h1⟩, ⟨l2, h2, hcase⟩⟩ := hl
  refine ⟨⟨l0 ++ l1, by rw [h1, hw]; rfl⟩, ?_⟩
  rw [h2, subIds_append, hf]
  rcases hcase with ⟨rfl, hlen⟩ | ⟨i, rfl, hlen⟩ | ⟨rfl, hlen⟩ | ⟨rfl, hlen⟩
  · simp [subIds, hlen]
  · simp [subIds, hlen]
  · simp [subIds, hlen]
  · simp [subIds, hlen, List.range_succ]

theorem init_logInv (order : List SubId) : LogInv { init with closeOrder := order } :=
  ⟨⟨[], rfl⟩, rfl⟩

theorem run_logInv {f : Flags} (w : World) (evs : List Ev) (h : LogInv w) : LogInv (run f w evs) :=
  run_invariant (fun h hs => (step_logStep hs).logInv h) w evs h

theorem run_written_prefix {f : Flags} (w : World) (evs : List Ev) : w.written <+: (run f w evs).written :=
  (run_induction (P := fun _ => True) (R := fun a b => a.written <+: b.written) (fun _ => List.prefix_refl _)
    List.IsPrefix.trans (fun _ hs => ⟨trivial, (step_logStep hs).written.imp fun _ => Eq.symm⟩) w evs trivial).2

end Genq.Ws
